import Gsp.Props.C08
/-! C07 — BJJ-signature proof verification is sound and complete. -/
namespace Gsp.Props.C07
open Gsp.Smt Gsp.Verify Gsp.Props.C09 Gsp.Props.C08

/-- **Soundness**: success only if the signature is valid under the key held in the auth claim; the auth claim is
    included (existence proof) in the claims tree whose root, with the revocation and roots roots, hashes to the
    issuer state named in the proof; that state is published or genesis; the auth claim's nonce equals the nonce of
    its status entry; and the validated status shows it not revoked. -/
theorem bjj_sound (P : List Nat → Nat) (H3 : Nat → Nat → Nat → Nat) (b : BjjBundle) (h : bjj P H3 b = .ok) :
    b.authClaimOk = true ∧ b.sigOk = true ∧ b.issuer.didOk = true ∧
    TreeStateOk H3 b.issuer.state ∧
    (∃ p ctr, b.authMtp = some p ∧ p.existence = true ∧ b.issuer.state.claimsRoot = .val ctr ∧
        rootFromProof P p b.authHi b.authHv = some ctr) ∧
    (b.resolved = .published (some true) ∨ b.genesis = .ok true) ∧
    b.statusNonce = .ok b.authNonce ∧
    status P H3 b.statusAnswer b.authNonce = .ok := by
  obtain ⟨h1, h2, hs, hn, hst⟩ := bjj_verdict (.inl rfl) h
  obtain ⟨h3, hts, hp, hi⟩ := smtp_sound P H3 _ hs
  exact ⟨h1, h2, h3, hts, hi, hp, hn, hst⟩

/-- under the idealised-hash hypothesis the auth claim really is a leaf of the issuer's claims tree, and the
    auth claim's nonce really is absent from the revocation tree the status answer refers to -/
theorem bjj_auth_in_tree_and_not_revoked (P : List Nat → Nat) (hcr : HashCR P) (H3 : Nat → Nat → Nat → Nat) (b : BjjBundle)
    (claimsTree revTree : T) (a : StatusAnswer) (h : bjj P H3 b = .ok)
    (hroot : b.issuer.state.claimsRoot = .val (T.hash P claimsTree))
    (hans : b.statusAnswer = .ok a) (hrev : rootOr0 a.issuer.revRoot = .ok (T.hash P revTree)) :
    lookup b.authHi claimsTree 0 = some b.authHv ∧ lookup b.authNonce revTree 0 = none := by
  obtain ⟨_, _, hs, _, hst⟩ := bjj_verdict (.inl rfl) h
  exact ⟨smtp_claim_in_tree P hcr H3 _ claimsTree hs hroot,
    (any_answer_truthful P hcr H3 revTree a b.authNonce hrev).1 (hans ▸ hst)⟩

/-- **Completeness**: a bundle produced by an honest issuer — valid signature, auth claim proven from the claims
    tree, consistent state that is published or genesis, matching nonce, honest non-revocation answer — verifies -/
theorem bjj_complete (P : List Nat → Nat) (H3 : Nat → Nat → Nat → Nat) (claimsTree : T) (b : BjjBundle) (p : Proof)
    (h1 : b.authClaimOk = true) (h2 : b.sigOk = true) (h3 : b.issuer.didOk = true)
    (hgen : genProof P b.authHi claimsTree 0 maxLevels [] = .ok p) (hm : b.authMtp = some p)
    (hin : lookup b.authHi claimsTree 0 = some b.authHv)
    (hctr : b.issuer.state.claimsRoot = .val (T.hash P claimsTree)) (hts : TreeStateOk H3 b.issuer.state)
    (hpub : b.resolved = .published (some true) ∨ (∃ q, b.resolved = .published q ∧ q ≠ some true ∧ b.genesis = .ok true))
    (hn : b.statusNonce = .ok b.authNonce) (hst : status P H3 b.statusAnswer b.authNonce = .ok) :
    bjj P H3 b = .ok := by
  have hs : smtProof P H3 b.authSmt = .ok := by
    rw [BjjBundle.authSmt, hm, show b.issuer = ⟨true, b.issuer.state⟩ from h3 ▸ rfl]
    exact smtp_complete P H3 claimsTree _ _ p _ _ _ hgen hin hctr hts hpub
  exact (bjj_of_checks h1 h2 hs hn).trans hst

/-- the distinguished "revoked" result only comes from the status validation, after everything else passed -/
theorem bjj_revoked_only_from_status (P : List Nat → Nat) (H3 : Nat → Nat → Nat → Nat) (b : BjjBundle)
    (h : bjj P H3 b = .revoked) : status P H3 b.statusAnswer b.authNonce = .revoked :=
  (bjj_verdict (.inr rfl) h).2.2.2.2

theorem bjj_ok_resolved (P : List Nat → Nat) (H3 : Nat → Nat → Nat → Nat) (b : BjjBundle) (h : bjj P H3 b = .ok) :
    publishedOrGenesis b.resolved b.genesis = .ok () :=
  (smtProof_verdict (.inl rfl) (smtProof_of_bjj_ok h)).2.2.2.1

/-- **a failed resolution is no answer**: when the DID resolver reports an error - whatever document came with it - or
    answers without state information, nothing is accepted, not even a proof naming the genesis state -/
theorem bjj_resolver_failure_rejected (P : List Nat → Nat) (H3 : Nat → Nat → Nat → Nat) (b : BjjBundle)
    (hr : b.resolved = .error ∨ b.resolved = .noStateInfo) : bjj P H3 b ≠ .ok :=
  fun h => smt_resolver_failure_rejected P H3 _ hr (smtProof_of_bjj_ok h)

/-- the verdict depends on the resolver only through its answer, and on the status resolver only through its answer for
    the auth claim's nonce: two bundles that differ in nothing else are judged alike (no hidden input) -/
theorem bjj_congr (P : List Nat → Nat) (H3 : Nat → Nat → Nat → Nat) (b b' : BjjBundle)
    (h1 : b.authClaimOk = b'.authClaimOk) (h2 : b.sigOk = b'.sigOk) (h3 : b.issuer.didOk = b'.issuer.didOk)
    (h4 : b.issuer.state = b'.issuer.state) (h5 : b.authMtp = b'.authMtp) (h6 : b.authHi = b'.authHi) (h7 : b.authHv = b'.authHv)
    (h8 : b.authNonce = b'.authNonce) (h9 : b.resolved = b'.resolved) (h10 : b.genesis = b'.genesis)
    (h11 : b.statusNonce = b'.statusNonce) (h12 : b.statusAnswer = b'.statusAnswer) : bjj P H3 b = bjj P H3 b' := by
  obtain ⟨_, _, ⟨_, _⟩, _, _, _, _, _, _, _, _⟩ := b'
  dsimp only at *
  subst_vars
  rfl

section Lookups
open Gsp.Resolve

/-- the verdict on a signature proof is the same for the resolver's document and for that document stripped of
    everything but its state entries: verification methods of other types have no say -/
theorem bjj_verdict_ignores_other_methods (P : List Nat → Nat) (H3 : Nat → Nat → Nat → Nat) (b : BjjBundle) (vms : List VM) :
    bjj P H3 { b with resolved := resolvedOf (.ok (vms.filter fun v => v.tp = stateInfoType)) } =
      bjj P H3 { b with resolved := resolvedOf (.ok vms) } := by
  rw [Gsp.Props.C08.other_methods_irrelevant]

theorem bjj_no_state_entry_rejected (P : List Nat → Nat) (H3 : Nat → Nat → Nat → Nat) (b : BjjBundle) (vms : List VM)
    (hno : ∀ w ∈ vms, w.tp ≠ stateInfoType) (hr : b.resolved = resolvedOf (.ok vms)) : bjj P H3 b ≠ .ok :=
  fun h => no_state_entry_rejected P H3 _ vms hno hr (smtProof_of_bjj_ok h)

/-- the auth claim's status is asked of the resolver registered under exactly the status entry's type in the registry in
    force; a type the verifier's own registry does not hold is an error — the process-wide default registry is not consulted — and an
    error of the lookup is a rejection of the proof -/
theorem bjj_status_type_not_in_own_registry_rejected (P : List Nat → Nat) (H3 : Nat → Nat → Nat → Nat) (b : BjjBundle)
    (t : String) (pre : List Op) (answers : Nat → Except String StatusAnswer)
    (hnone : ∀ o t' res, Op.register o t' res ∈ pre → ¬ (o = true ∧ t' = t))
    (hans : b.statusAnswer = match (run {} (pre ++ [.resolve true t])).getLast? with
        | some (some (some res)) => answers res
        | _ => .error "not-registered") :
    bjj P H3 b ≠ .ok := by
  rw [Gsp.Props.C09.unregistered_type_is_error true t pre hnone, List.getLast?_concat] at hans
  intro h
  have hst := (bjj_verdict (.inl rfl) h).2.2.2.2
  rw [hans] at hst
  exact nomatch hst
end Lookups

end Gsp.Props.C07
