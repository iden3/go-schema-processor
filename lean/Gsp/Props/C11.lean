import Gsp.Model.PathObj
import Gsp.Lemmas.CtxAgree
/-! C11 — schema-side, document-side and stored paths agree.
    `storedKey` is the specification (JSON-LD 1.1 term resolution during expansion); `pathFromDocument`,
    `pathFromContext`, `typeFromContext`, `typeIDFromContext` follow the Go resolvers. The full statement
    (`doc_eq_stored` for every schema) is false of the current code because of known finding D8 (a term that a
    type-scoped context defines is resolved with that definition inside nested nodes as well); the theorems below
    are the parts that hold, with D8's counter-example proved on the model. -/
namespace Gsp.Props.C11
open Gsp.Ctx
open Gsp.Rdf (PathPart)

/-- **Unresolvable paths are errors** (never a different path): a term the active context does not define -/
theorem unknown_term_is_error_ctx (s : Schema) (a : Active) (p : String) (rest : List String)
    (hn : isNumeric p = false) (hu : lookupTerm a p = none) : ∃ e, pathFromContext s a (p :: rest) = .error e := by
  simp [pathFromContext, hn, hu]

theorem unknown_term_is_error_type (s : Schema) (a : Active) (p : String) (rest : List String)
    (hu : lookupTerm a p = none) : ∃ e, typeFromContext s a (p :: rest) = .error e := by
  cases rest <;> simp [typeFromContext, hu]

/-- a scoped context that cannot be loaded is an error for the type resolver — never an empty type (defect D9) -/
theorem context_load_failure_is_error (s : Schema) (a : Active) (p : String) (rest : List String) (td : TermDef)
    (ht : lookupTerm a p = some td) (hl : applyCtx s a td.sub = none) : ∃ e, typeFromContext s a (p :: rest) = .error e := by
  cases rest <;> simp [typeFromContext, ht, hl]

/-- a numeric segment is passed through as that index by the context-side resolver -/
theorem numeric_segment_ctx (s : Schema) (a : Active) (p : String) (n : Nat) (rest : List String) (r : List PathPart)
    (hn : isNumeric p = true) (hp : p.toNat? = some n) (hr : pathFromContext s a rest = .ok r) :
    pathFromContext s a (p :: rest) = .ok (.i n :: r) :=
  (pathFromContext_index hn hp).trans (congrArg (Except.map _) hr)

/-- **a numeric segment always selects a member of the array** (defect D14 repaired): an index beyond the end of
    the array is an error, and the rest of the path is resolved in *that* member -/
theorem numeric_selects_member (s : Schema) (fuel : Nat) (a : Active) (ms : List (Option Node)) (acc : Bool) (p : String) (n : Nat)
    (rest : List String) (hn : isNumeric p = true) (hp : p.toNat? = some n) :
    (n ≥ ms.length → ∃ e, pathFromDocument s (fuel+1) a (.arr ms) acc (p :: rest) = .error e) ∧
    (∀ m, ms[n]? = some m →
      pathFromDocument s (fuel+1) a (.arr ms) acc (p :: rest) = (pathFromDocument s fuel a (.single m) true rest).map (.i n :: ·)) := by
  rw [pathFromDocument.eq_def]
  simp only [hn, hp, if_true]
  exact ⟨fun hge => ⟨_, by rw [List.getElem?_eq_none hge]⟩, fun m hm => by rw [hm]⟩

/-- **where the document has no array, a single value is the only member there is** (defect D21 repaired): a position
    other than 0 is an error — at the root, after a single-valued property, after a literal — and position 0 continues in
    that value -/
theorem numeric_on_single_value (s : Schema) (fuel : Nat) (a : Active) (m : Option Node) (acc : Bool) (p : String) (n : Nat)
    (rest : List String) (hn : isNumeric p = true) (hp : p.toNat? = some n) :
    (n ≠ 0 → ∃ e, pathFromDocument s (fuel+1) a (.single m) acc (p :: rest) = .error e) ∧
    (n = 0 → pathFromDocument s (fuel+1) a (.single m) acc (p :: rest) = (pathFromDocument s fuel a (.single m) true rest).map (.i 0 :: ·)) := by
  rw [pathFromDocument.eq_def]
  simp only [hn, hp, if_true]
  exact ⟨fun hne => ⟨_, if_pos hne⟩, fun h0 => by subst h0; rfl⟩

/-- the specification of expansion says the same: a property with one member has no member 1 -/
theorem stored_key_single_member_has_no_member_one (s : Schema) (base : Active) (node : Node) (m : Option Node) (td : TermDef) (a1 b : Active)
    (idx : String) (hnum : isNumeric idx = true) (hidx : idx.toNat? = some 1)
    (h1 : applyTypes s base base (sortS node.types) = some a1) (h2 : lookupTerm a1 "f" = some td)
    (h3 : applyCtx s base td.sub = some b) (h4 : node.props.lookup "f" = some [m]) :
    storedKey s 2 base (some node) ["f", idx, "g"] = .error "index-out-of-range" := by
  rw [storedKey.eq_def]
  simp only [h1, h2, h3, h4, hnum, hidx]
  rfl

/-- the type identifier is resolved for types only, and is the `@id` of the type term — the IRI that expansion
    stores as the subject's `rdf:type` and that the claim's schema hash is computed from -/
theorem type_id_agrees (s : Schema) (top : Active) (typeName : String) (td : TermDef)
    (ht : termsOf s s.top = some top) (hl : lookupTerm top typeName = some td) :
    typeIDFromContext s typeName = (if td.sub.isSome then .ok td.iri else .error "not-a-type") := by
  simp [typeIDFromContext, ht, hl]

/-- **Top-level fields**: for a field of a typed node whose term is defined by the node's (type-scoped) context,
    the document-side resolver, the context-side resolver (type + field) and the specification agree
    (`fuel+2`: one step for the field, one more because the model tests the fuel before it tests for the empty path) -/
theorem top_level_field_agrees (s : Schema) (fuel : Nat) (base : Active) (tname fname : String) (ttd ftd : TermDef)
    (tctx : List TermDef) (members : List (Option Node)) (props : List (String × List (Option Node)))
    (hnum : isNumeric fname = false) (hnumT : isNumeric tname = false)
    (htype : lookupTerm base tname = some ttd) (hsub : ttd.sub.bind (termsOf s) = some tctx)
    (hfield : lookupTerm (tctx ++ base) fname = some ftd) (hfsub : ftd.sub = none)
    (hprops : props.lookup fname = some members) :
    pathFromDocument s (fuel+2) base (.single (some (.mk [tname] props))) false [fname] = .ok [.s ftd.iri] ∧
    storedKey s (fuel+2) base (some (.mk [tname] props)) [fname] = .ok [.s ftd.iri] ∧
    pathFromContext s base [tname, fname] = .ok [.s ttd.iri, .s ftd.iri] := by
  have happly : applyCtx s base ttd.sub = some (tctx ++ base) := by
    obtain ⟨id, hs, ht⟩ := Option.bind_eq_some_iff.1 hsub
    rw [hs, applyCtx, ht]; rfl
  have htypes : applyTypes s base base (sortS [tname]) = some (tctx ++ base) := by
    simp only [sortS, List.foldr, insertSortedS, applyTypes, htype, happly]
  have hfa (a : Active) : applyCtx s a ftd.sub = some a := by rw [hfsub]; rfl
  refine ⟨?_, ?_, ?_⟩
  · rw [pathFromDocument.eq_def]
    simp only [hnum, Node.types, Node.props, htypes, hfield, hfa, hprops]
    rfl
  · rw [storedKey.eq_def]
    simp only [Node.types, Node.props, htypes, hfield, hfa, hprops]
  · rw [pathFromContext_term hnumT htype happly, pathFromContext_term hnum hfield (hfa _)]; rfl

/-- **Document-side path = stored key** — the full statement `doc_eq_stored` restricted to documents whose nodes carry
    no types (`_partial`: D8 makes the unrestricted statement false, see `d8_counterexample`). For every schema without
    numeric term names, every active context, every dotted path (any depth, positions included): when the
    document-side resolver and the specification of expansion both give a path, it is the same path. -/
theorem doc_eq_stored_partial (s : Schema) (hs : SchemaNoNum s) (π : List String) (f1 f2 : Nat) (a : Active)
    (cur : Option Node) (acc : Bool) (q q' : List PathPart) (hnn : NoNum a) (hut : UntypedN π.length cur)
    (h1 : pathFromDocument s f1 a (.single cur) acc π = .ok q) (h2 : storedKey s f2 a cur π = .ok q') : q = q' :=
  Except.ok.inj ((pathFromDocument_ok_ctx (v := .single cur) hut q h1).symm.trans (storedKey_ok_ctx hs hnn hut q' h2))

/-- **Context-side path = document-side path** on the same class: the path resolved from the context alone and the
    one resolved by walking the document are equal whenever both exist -/
theorem ctx_eq_doc_partial (s : Schema) (f : Nat) (π : List String) (a : Active) (v : Val) (acc : Bool)
    (q q' : List PathPart) (hut : UntypedV π.length v)
    (h1 : pathFromDocument s f a v acc π = .ok q) (h2 : pathFromContext s a π = .ok q') : q = q' :=
  Except.ok.inj ((pathFromDocument_ok_ctx hut q h1).symm.trans h2)

def okSchema : Schema :=
  { top := 0
    ctxs := [(0, [⟨"addr", "urn:v#addr", "", some 1⟩, ⟨"tags", "urn:v#tags", "", none⟩]),
             (1, [⟨"city", "urn:a#city", "", none⟩])] }
def okDoc : Node := .mk [] [("addr", [some (.mk [] [("city", [none])])]), ("tags", [none, none])]
def okTop : Active := (termsOf okSchema 0).getD []

/-- non-vacuity of the two theorems: a nested, untyped document with a property-scoped context and an array, on which
    all three resolvers succeed (and agree) -/
example : pathFromDocument okSchema 10 okTop (.single (some okDoc)) false ["addr", "city"] = .ok [.s "urn:v#addr", .s "urn:a#city"] ∧
    storedKey okSchema 10 okTop (some okDoc) ["addr", "city"] = .ok [.s "urn:v#addr", .s "urn:a#city"] ∧
    pathFromContext okSchema okTop ["addr", "city"] = .ok [.s "urn:v#addr", .s "urn:a#city"] :=
  ⟨rfl, rfl, rfl⟩

def d8Schema : Schema :=
  { top := 0
    ctxs := [(0, [⟨"x", "urn:outer#x", "", none⟩, ⟨"p", "urn:v#p", "", none⟩, ⟨"T", "urn:T", "", some 1⟩]),
             (1, [⟨"x", "urn:inner#x", "", none⟩])] }
def d8Doc : Node := .mk ["T"] [("p", [some (.mk [] [("x", [none])])])]
def d8Top : Active := (termsOf d8Schema 0).getD []

/-- Known finding D8, proved on the model: a type-scoped definition of `x` leaks into a nested node. The nested
    node is untyped, so expansion resolves `x` with the outer definition (`urn:outer#x`, what is stored), while the
    document-side resolver answers with the inner one (`urn:inner#x`) — a different path instead of the stored key. -/
theorem d8_counterexample :
    pathFromDocument d8Schema 10 d8Top (.single (some d8Doc)) false ["p", "x"] = .ok [.s "urn:v#p", .s "urn:inner#x"] ∧
    storedKey d8Schema 10 d8Top (some d8Doc) ["p", "x"] = .ok [.s "urn:v#p", .s "urn:outer#x"] :=
  ⟨rfl, rfl⟩

section PathObject
open Gsp.PathObj

theorem final_step (h : Hasher) (p : List PathPart) (op : Op) (ops : List Op) :
    final p (op :: ops) = final (step h p op).1 ops := by
  cases op <;> rfl

theorem run_append (h : Hasher) (p : List PathPart) (a b : List Op) :
    run h p (a ++ b) = run h p a ++ run h (final p a) b := by
  induction a generalizing p with
  | nil => rfl
  | cons op a ih => simp only [List.cons_append, run, ih, final_step h]

/-- **the key a path hands out is the key of the parts it has at that moment**, whatever was appended, prepended or
    observed before - in particular an earlier observation of the key has no influence on a later one -/
theorem key_is_key_of_current_parts (h : Hasher) (p : List PathPart) (pre : List Op) :
    run h p (pre ++ [.key]) = run h p pre ++ [.key (Mz.keyHash h (final p pre))] := by
  rw [run_append]; rfl

theorem observations_are_pure (p : List PathPart) (ops : List Op) : final p ops = final p (writes ops) := by
  induction ops generalizing p with
  | nil => rfl
  | cons op ops ih => cases op <;> simp only [final, writes, ih]

/-- a path assembled in pieces - from whichever end, in whichever order of the two ends - is the path of its parts:
    prepending `a` and appending `c` to `b` gives `a ++ b ++ c` either way round -/
theorem assembled_either_way (a b c : List PathPart) :
    final b [.prepend a, .append c] = a ++ b ++ c ∧ final b [.append c, .prepend a] = a ++ b ++ c := by
  simp [final]

/-- so the key after assembling is the key under which a field with these parts is stored (`Mz.keyHash` is the function
    the merklizer applies to an entry's key) -/
theorem assembled_key (h : Hasher) (a b c : List PathPart) :
    (run h b [.prepend a, .key, .append c, .key]).getLast? = some (.key (Mz.keyHash h (a ++ b ++ c))) := by
  simp [run, step]
end PathObject

end Gsp.Props.C11
