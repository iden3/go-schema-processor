import Gsp.Lemmas.Loader
import Gsp.Lemmas.Assoc
/-! C19 — the document loader serves fresh documents and routes by scheme. -/
namespace Gsp.Props.C19
open Gsp.Loader

/-- every cached document was received earlier in a response that allowed caching, with exactly the expiry that
    response's lifetime gives; nothing was received in the future; embedded URLs never enter the mutable cache -/
structure CacheInv (cfg : Cfg) (s : St) : Prop where
  cached : ∀ u v exp, (u, (v, exp)) ∈ s.cache → ∃ t l, (u, v, t, l) ∈ s.received ∧ exp = t + l
  past : ∀ u v t l, (u, v, t, l) ∈ s.received → t ≤ s.now
  noEmbedded : ∀ u x, (u, x) ∈ s.cache → cfg.embedded.lookup u = none

theorem inv_init (cfg : Cfg) : CacheInv cfg {} :=
  ⟨fun _ _ _ => List.not_mem_nil.elim, fun _ _ _ _ => List.not_mem_nil.elim, fun _ _ => List.not_mem_nil.elim⟩

theorem mem_of_lookup {α β} [BEq α] [LawfulBEq α] : ∀ (l : List (α × β)) (a : α) (b : β), l.lookup a = some b → (a, b) ∈ l :=
  fun _ _ _ => Assoc.mem_of_lookup

theorem store_inv (cfg : Cfg) (s : St) (u : String) (v : Nat) (p : Policy) (hi : CacheInv cfg s) :
    CacheInv cfg (store cfg s u v p) := by
  unfold store
  split
  · refine ⟨fun u' v' exp hm => ?_, fun u' v' t l hm => ?_, fun u' x hm => ?_⟩
    · rcases mem_cacheSet hm with hm | ⟨rfl, e, _⟩
      · obtain ⟨t, l, a, b⟩ := hi.cached u' v' exp hm
        exact ⟨t, l, List.mem_cons_of_mem _ a, b⟩
      · cases e; exact ⟨s.now, p.lifetime, List.mem_cons_self, rfl⟩
    · rcases List.mem_cons.mp hm with e | hm
      · cases e; exact Int.le_refl _
      · exact hi.past u' v' t l hm
    · rcases mem_cacheSet hm with hm | ⟨rfl, _, he⟩
      · exact hi.noEmbedded u' x hm
      · exact he
  · exact hi

theorem store_frame (cfg : Cfg) (s : St) (u : String) (v : Nat) (p : Policy) :
    (store cfg s u v p).now = s.now ∧ (store cfg s u v p).origin = s.origin ∧ (store cfg s u v p).requests = s.requests :=
  ⟨store_now, store_origin, store_requests⟩

theorem bump_inv (cfg : Cfg) (s : St) (hi : CacheInv cfg s) : CacheInv cfg (bump s) :=
  ⟨hi.cached, hi.past, hi.noEmbedded⟩

/-- the IPFS node client changes nothing but the request count, and a document it returns is the one the node has now -/
theorem ipfsNode_spec (s s2 : St) (k : String) (r : Res) (h : loadIPFSNode s k = (s2, r)) :
    s2 = bump s ∧ ∀ v, r = .doc v → ∃ p, s.origin.lookup k = some (.serves v p) :=
  ⟨by rw [← loadIPFSNode_fst s k, h], fun v hv => loadIPFSNode_doc (by rw [h]; exact hv)⟩

theorem inv_evolves {cfg : Cfg} {s s' : St} (hi : CacheInv cfg s) (he : Evolves cfg s s') : CacheInv cfg s' := by
  induction he with
  | refl => exact hi
  | request _ ih => exact bump_inv cfg _ ih
  | stored u v p _ _ ih => exact store_inv cfg _ u v p ih

/-- a load keeps the invariant and changes neither the clock nor the origin -/
theorem inv_loadHTTP (cfg : Cfg) (route : String → Route) : ∀ (hops : Nat) (s s' : St) (u : String) (r : Res), CacheInv cfg s →
    loadHTTP cfg route hops s u = (s', r) → CacheInv cfg s' ∧ s'.now = s.now ∧ s'.origin = s.origin := by
  intro hops s s' u r hi h
  have he := evolves_of_loadHTTP h
  exact ⟨inv_evolves hi he, he.frame.1, he.frame.2.1⟩

/-- **the invariant is preserved by every operation** -/
theorem inv_step (cfg : Cfg) (route : String → Route) (s s' : St) (op : Op) (r : Res) (hi : CacheInv cfg s) (h : step cfg route s op = (s', r)) :
    CacheInv cfg s' := by
  obtain rfl : (step cfg route s op).1 = s' := by rw [h]
  cases op with
  | serve | serveAlt | fail => exact ⟨hi.cached, hi.past, hi.noEmbedded⟩
  | tick n => exact ⟨hi.cached, fun u v t l hm => Int.le_trans (hi.past u v t l hm) (Int.le_add_of_nonneg_right (Int.natCast_nonneg n)), hi.noEmbedded⟩
  | load sc u g => exact inv_evolves hi (load_evolves cfg route s sc u g)

/-- … hence it holds in every reachable state, along any history -/
theorem inv_run (cfg : Cfg) (route : String → Route) : ∀ (ops : List Op) (s : St), CacheInv cfg s → CacheInv cfg (run cfg route s ops).1 := by
  intro ops
  induction ops with
  | nil => intro s hi; simpa [run] using hi
  | cons op ops ih =>
    intro s hi
    simp only [run]
    have := inv_step cfg route s (step cfg route s op).1 op (step cfg route s op).2 hi rfl
    exact ih _ this

/-- what a load of `u` may return in state `s`: the document the origin serves for it now — directly, or through
    the alternate link of the page it serves —, one received earlier for `u` in a response that allowed caching and
    whose lifetime has not expired, or the embedded one. (For a page with an alternate link "received for u" is
    the document obtained from the link's target at that time, stored under the page's own policy: finding F9,
    `alternate_page_reuses_target_document` below.) -/
inductive Allowed (cfg : Cfg) (route : String → Route) (s : St) : String → Nat → Prop
  | current (u : String) (v : Nat) (p : Policy) : s.origin.lookup u = some (.serves v p) → Allowed cfg route s u v
  | viaAlternate (u t t' : String) (p : Policy) (v : Nat) : s.origin.lookup u = some (.alt t p) → route t = .http t' →
      Allowed cfg route s t' v → Allowed cfg route s u v
  | viaAlternateNode (u t key : String) (p p' : Policy) (v : Nat) : s.origin.lookup u = some (.alt t p) → route t = .node key →
      s.origin.lookup key = some (.serves v p') → Allowed cfg route s u v
  | cached (u : String) (v : Nat) (t l : Int) : (u, v, t, l) ∈ s.received → t + l > s.now → Allowed cfg route s u v
  | embedded (u : String) (v : Nat) : cfg.embedded.lookup u = some v → Allowed cfg route s u v

theorem allowed_congr (cfg : Cfg) (route : String → Route) (s s1 : St) (ho : s1.origin = s.origin) (hr : s1.received = s.received) (hn : s1.now = s.now)
    (u : String) (v : Nat) (h : Allowed cfg route s1 u v) : Allowed cfg route s u v := by
  induction h with
  | current u v p h1 => exact .current u v p (ho ▸ h1)
  | viaAlternate u t t' p v h1 h2 _ ih => exact .viaAlternate u t t' p v (ho ▸ h1) h2 ih
  | viaAlternateNode u t key p p' v h1 h2 h3 => exact .viaAlternateNode u t key p p' v (ho ▸ h1) h2 (ho ▸ h3)
  | cached u v t l h1 h2 => exact .cached u v t l (hr ▸ h1) (hn ▸ h2)
  | embedded u v h1 => exact .embedded u v h1

theorem cacheHit_allowed (cfg : Cfg) (route : String → Route) (s : St) (u : String) (v : Nat) (hi : CacheInv cfg s) (h : cacheHit cfg s u = some v) :
    Allowed cfg route s u v := by
  obtain ⟨_, he | ⟨_, exp, hl, hfresh⟩⟩ := cacheHit_cases h
  · exact .embedded u v he
  · obtain ⟨t, l, a, b⟩ := hi.cached u v exp (mem_of_lookup _ _ _ hl)
    exact .cached u v t l a (b ▸ hfresh)

/-- **Freshness**: a document returned for an http(s) URL is one `Allowed` describes -/
theorem load_fresh (cfg : Cfg) (route : String → Route) : ∀ (hops : Nat) (s s' : St) (u : String) (v : Nat), CacheInv cfg s →
    loadHTTP cfg route hops s u = (s', .doc v) → Allowed cfg route s u v := by
  intro hops s s' u v hi h
  replace h : (loadHTTP cfg route hops s u).2 = .doc v := by rw [h]
  -- the four branches that return a document: a fresh entry, the origin's document, an alternate link to the IPFS node,
  -- an alternate link followed over HTTP
  fun_induction loadHTTP cfg route hops s u with
  | case1 hops s u v' hit => cases h; exact cacheHit_allowed cfg route s u v hi hit
  | case4 hops s u _ _ v' p ho => cases h; exact .current u v p ho
  | case7 s u _ s1 t p ho _ key hr s2 v' hn =>
    cases h
    obtain ⟨p', hp'⟩ := loadIPFSNode_doc (s := s1) (k := key) (by rw [hn])
    exact .viaAlternateNode u t key p p' v ho hr hp'
  | case9 s u _ s1 t p ho _ t' hr s2 v' hin ih =>
    cases h
    exact .viaAlternate u t t' p v ho hr (allowed_congr cfg route s s1 rfl rfl rfl t' v (ih (bump_inv cfg s hi) (by rw [hin])))
  | case2 | case3 | case5 | case6 | case8 | case10 => cases h

/-- a failing origin never produces a document unless a fresh cached or embedded one exists -/
theorem failure_not_returned (cfg : Cfg) (route : String → Route) (hops : Nat) (s s' : St) (u : String) (v : Nat) (hi : CacheInv cfg s)
    (hfail : s.origin.lookup u = some .fails ∨ s.origin.lookup u = none)
    (h : loadHTTP cfg route hops s u = (s', .doc v)) :
    (∃ t l, (u, v, t, l) ∈ s.received ∧ t + l > s.now) ∨ cfg.embedded.lookup u = some v := by
  have ha := load_fresh cfg route hops s s' u v hi h
  cases ha with
  | current _ _ _ hp | viaAlternate _ _ _ _ _ hp | viaAlternateNode _ _ _ _ _ _ hp => rcases hfail with hf | hf <;> cases hf.symm.trans hp
  | cached _ _ t l h1 h2 => exact Or.inl ⟨t, l, h1, h2⟩
  | embedded _ _ h1 => exact Or.inr h1

theorem loadHTTP_now (cfg : Cfg) (route : String → Route) : ∀ (hops : Nat) (a b : St) (w : String) (q : Res), loadHTTP cfg route hops a w = (b, q) → b.now = a.now :=
  fun _ _ _ _ _ hh => (evolves_of_loadHTTP hh).frame.1

/-- responses that forbid or do not permit caching are never reused, and failed responses are never cached:
    whatever a load adds to the history the cache draws from was obtained now, for a URL whose own response
    (a document, or a page with an alternate link) was successful and storable, with that response's lifetime -/
theorem only_storable_received (cfg : Cfg) (route : String → Route) : ∀ (hops : Nat) (s s' : St) (u : String) (r : Res) (x : String × Nat × Int × Int),
    loadHTTP cfg route hops s u = (s', r) → x ∈ s'.received → x ∉ s.received →
    ∃ u' v' p, x = (u', v', s.now, p.lifetime) ∧ p.storable = true ∧ cfg.cacheOn = true ∧
      (s.origin.lookup u' = some (.serves v' p) ∨ ∃ t, s.origin.lookup u' = some (.alt t p)) :=
  fun _ _ _ _ _ _ h hx hnew => ((evolves_of_loadHTTP h).received hx).resolve_left hnew

/-- embedded documents are returned without any request … -/
theorem embedded_no_request (cfg : Cfg) (route : String → Route) (hops : Nat) (s : St) (u : String) (v : Nat) (hc : cfg.cacheOn = true)
    (he : cfg.embedded.lookup u = some v) : loadHTTP cfg route hops s u = (s, .doc v) := by
  unfold loadHTTP
  simp only [cacheHit_embedded hc he]

/-- … and never overwritten -/
theorem embedded_never_overwritten (cfg : Cfg) (c : Cache) (u : String) (v : Nat) (exp : Int)
    (he : (cfg.embedded.lookup u).isSome = true) : cacheSet cfg c u v exp = c := by
  simp [cacheSet, he]

/-- without a cache every load is at least one request, and nothing is ever stored -/
theorem cache_disabled_always_requests (cfg : Cfg) (route : String → Route) (hc : cfg.cacheOn = false) : ∀ (hops : Nat) (s : St) (u : String),
    (loadHTTP cfg route hops s u).1.requests ≥ s.requests + 1 ∧ (loadHTTP cfg route hops s u).1.cache = s.cache := by
  intro hops s u
  have he := loadHTTP_evolves cfg route hops s u
  simp only [cacheHit_of_cacheOff hc] at he
  exact ⟨he.frame.2.2, he.cache_of_cacheOff hc⟩

/-- **finding F9, proved on the model**: a page whose response allows caching, with an alternate link to a document
    whose own response forbids it: the document is stored under the page's URL and returned for it later,
    without any request, although the origin has replaced it in the meantime -/
theorem alternate_page_reuses_target_document :
    (run ⟨true, [], false, false⟩ (fun t => .http t) {} [.serveAlt "p" "d" ⟨true, 3600⟩, .serve "d" 1 ⟨false, 0⟩, .load .http "p" "",
      .serve "d" 2 ⟨false, 0⟩, .load .http "p" "", .load .http "d" ""]).2 =
      [.none_, .none_, .doc 1, .none_, .doc 1, .doc 2] := by decide +kernel

/-- the hop bound: a page whose alternate link leads back to itself is an error after `maxHops` + 1 requests (defect D19:
    before the repair the chain was followed without end) -/
theorem alternate_loop_is_error :
    (fun r => (r.1.requests, r.2)) (run ⟨true, [], false, false⟩ (fun t => .http t) {} [.serveAlt "p" "p" ⟨true, 3600⟩, .load .http "p" ""]) =
      (maxHops + 1, [.none_, .err]) := by decide +kernel

/-- **the target of an alternate link is routed like any URL** (Go: d.loadDocument(finalURL, hops+1)): a target the
    scheme dispatch rejects - any scheme but http(s) and ipfs, or ipfs with neither client nor gateway - fails the load after
    the one request for the page, and nothing is sent anywhere else -/
theorem alternate_rejected_scheme (cfg : Cfg) (route : String → Route) (hops : Nat) (s : St) (u t : String) (p : Policy)
    (hmiss : cacheHit cfg s u = none) (ho : s.origin.lookup u = some (.alt t p)) (hr : route t = .reject) :
    loadHTTP cfg route hops s u = (bump s, .err) := by
  cases hops <;> unfold loadHTTP <;> simp [hmiss, ho, hr]

/-- … a target that is an ipfs URL, with an IPFS client configured, is fetched from the node (never over HTTP); the page's
    URL is then answered and stored as for any alternate -/
theorem alternate_to_ipfs_node (cfg : Cfg) (route : String → Route) (h : Nat) (s : St) (u t key : String) (p : Policy)
    (hmiss : cacheHit cfg s u = none) (ho : s.origin.lookup u = some (.alt t p)) (hr : route t = .node key) :
    (∀ s2 v, loadIPFSNode (bump s) key = (s2, .doc v) → loadHTTP cfg route (h+1) s u = (store cfg s2 u v p, .doc v)) ∧
    (∀ s2 r, loadIPFSNode (bump s) key = (s2, r) → (∀ v, r ≠ .doc v) → loadHTTP cfg route (h+1) s u = (s2, .err)) := by
  constructor
  · intro s2 v hn
    unfold loadHTTP; simp [hmiss, ho, hr, hn]
  · intro s2 r hn hnd
    -- the match on the node's answer falls through to its last alternative by `hnd`
    unfold loadHTTP; simp only [hmiss, ho, hr, hn]

/-- witness: a page whose alternate is an ftp URL is an error after one request; with an ipfs alternate and a client the
    node's document is returned -/
theorem alternate_routing_witness :
    (fun r => (r.1.requests, r.2)) (run ⟨true, [], true, false⟩
      (fun t => if t = "ipfs://d" then .node "ipfs-node:d" else if t = "ftp://d" then .reject else .http t) {}
      [.serveAlt "p" "ftp://d" ⟨true, 60⟩, .serve "ftp://d" 66 ⟨true, 60⟩, .load .http "p" "",
       .serveAlt "q" "ipfs://d" ⟨false, 0⟩, .serve "ipfs-node:d" 8 ⟨false, 0⟩, .serve "ipfs://d" 66 ⟨true, 60⟩, .load .http "q" ""]) =
      (3, [.none_, .none_, .err, .none_, .none_, .none_, .doc 8]) := by decide +kernel

/-- **Routing**: http(s) → the HTTP client; ipfs → the IPFS client when one is set, otherwise the gateway,
    otherwise an error; every other scheme is rejected -/
theorem route_spec (cfg : Cfg) (route : String → Route) (s : St) (u g : String) :
    load cfg route s .http u g = loadHTTP cfg route maxHops s u ∧
    (cfg.ipfsClient = true → load cfg route s .ipfs u g = loadIPFSNode s u) ∧
    (cfg.ipfsClient = false → cfg.ipfsGateway = true → load cfg route s .ipfs u g = loadHTTP cfg route maxHops s g) ∧
    (cfg.ipfsClient = false → cfg.ipfsGateway = false → load cfg route s .ipfs u g = (s, .err)) ∧
    load cfg route s .other u g = (s, .err) := by
  refine ⟨rfl, ?_, ?_, ?_, rfl⟩
  · intro h; simp [load, h]
  · intro h1 h2; simp [load, h1, h2]
  · intro h1 h2; simp [load, h1, h2]

-- non-vacuity: a history in which a cached document is reused while fresh and refetched when stale
example : (run ⟨true, [], false, false⟩ (fun t => .http t) {} [.serve "u" 1 ⟨true, 2⟩, .load .http "u" "", .serve "u" 2 ⟨true, 2⟩,
    .load .http "u" "", .tick 3, .load .http "u" ""]).2 = [.none_, .doc 1, .none_, .doc 1, .none_, .doc 2] := by decide

end Gsp.Props.C19
