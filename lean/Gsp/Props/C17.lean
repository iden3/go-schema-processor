import Gsp.Lemmas.Claim
import Gsp.Lemmas.Except
/-! C17 — slot index lookup agrees with where claim building puts the field. -/
namespace Gsp.Props.C17
open Gsp.Claim

/-- the raw slot (2, 3, 6, 7) of the four data slots -/
def rawSlot (s : Nat × Nat × Nat × Nat) (i : Nat) : Option Nat :=
  if i = 2 then some s.1 else if i = 3 then some s.2.1 else if i = 6 then some s.2.2.1 else if i = 7 then some s.2.2.2 else none

/-- **Agreement**: if the lookup reports slot `i` for a (non-empty) field, then `i ∈ {2,3,6,7}` and claim
    building — when it succeeds — puts exactly that field's value encoding into raw slot `i`. -/
theorem slot_agree (attr field : String) (fields : List (String × Nat)) (i : Nat) (s : Nat × Nat × Nat × Nat) (nonM : Bool)
    (hi : getFieldSlotIndex attr field = .ok i) (hs : parseSlots attr fields = .ok (s, nonM)) :
    (i = 2 ∨ i = 3 ∨ i = 6 ∨ i = 7) ∧ nonM = true ∧ ∃ v, fields.lookup field = some v ∧ rawSlot s i = some v := by
  obtain ⟨hf, hattr, p, hp, hidx⟩ := getFieldSlotIndex_ok hi
  obtain ⟨hn, ha, hb, hc, hd⟩ := (parseSlots_of_parseSer hattr hp).1 hs
  rcases slotIndexOf_ok hidx with ⟨rfl, rfl⟩ | ⟨rfl, rfl⟩ | ⟨rfl, rfl⟩ | ⟨rfl, rfl⟩
  · exact ⟨by decide, hn, _, fillSlot_ok hf ha, rfl⟩
  · exact ⟨by decide, hn, _, fillSlot_ok hf hb, rfl⟩
  · exact ⟨by decide, hn, _, fillSlot_ok hf hc, rfl⟩
  · exact ⟨by decide, hn, _, fillSlot_ok hf hd, rfl⟩

/-- **Both operations report errors together**: a malformed attribute fails the lookup and claim building -/
theorem malformed_both_error (attr field : String) (fields : List (String × Nat)) (e : String)
    (hne : attr ≠ "") (hf : field ≠ "") (hp : parseSer attr = .error e) :
    (∃ e₁, getFieldSlotIndex attr field = .error e₁) ∧ (∃ e₂, parseSlots attr fields = .error e₂) := by
  constructor
  · unfold getFieldSlotIndex; simp [hf, hne, hp]
  · unfold parseSlots; simp [hne, hp]

/-- GetFieldSlotIndex fails for a field that the serialization attribute names in none of its four slots -/
theorem unnamed_field_error (attr field : String) (p : SlotPaths) (hp : parseSer attr = .ok p)
    (h : field ≠ p.indexA ∧ field ≠ p.indexB ∧ field ≠ p.valueA ∧ field ≠ p.valueB) :
    ∃ e, getFieldSlotIndex attr field = .error e := by
  refine Except.exists_error_of_not_ok fun i hi => ?_
  obtain ⟨_, _, p', hp', hs⟩ := getFieldSlotIndex_ok hi
  cases hp.symm.trans hp'
  rcases slotIndexOf_ok hs with ⟨_, e⟩ | ⟨_, e⟩ | ⟨_, e⟩ | ⟨_, e⟩
  · exact h.1 e
  · exact h.2.1 e
  · exact h.2.2.1 e
  · exact h.2.2.2 e

theorem empty_field_error (attr : String) : ∃ e, getFieldSlotIndex attr "" = .error e :=
  Except.exists_error_of_not_ok fun _ h => (getFieldSlotIndex_ok h).1 rfl
theorem no_attribute_error (field : String) : ∃ e, getFieldSlotIndex "" field = .error e :=
  Except.exists_error_of_not_ok fun _ h => (getFieldSlotIndex_ok h).2.1 rfl

/-- the attribute grammar: the prefix is required and more than four parts are rejected -/
theorem parseSer_prefix (attr : String) (h : attr.startsWith serPrefix = false) : ∃ e, parseSer attr = .error e := by
  unfold parseSer; simp [h]

/-- **If-and-only-if for attributes that assign distinct fields to distinct slots**: a raw slot holds the
    field's encoding only at the reported index (values of different fields being different). -/
theorem slot_agree_iff (attr field : String) (p : SlotPaths) (i : Nat)
    (hp : parseSer attr = .ok p) (hne : attr ≠ "") (hf : field ≠ "")
    (hdist : p.indexA ≠ p.indexB ∧ p.indexA ≠ p.valueA ∧ p.indexA ≠ p.valueB ∧ p.indexB ≠ p.valueA ∧ p.indexB ≠ p.valueB ∧ p.valueA ≠ p.valueB) :
    getFieldSlotIndex attr field = .ok i ↔
      (i = 2 ∧ field = p.indexA) ∨ (i = 3 ∧ field = p.indexB) ∨ (i = 6 ∧ field = p.valueA) ∨ (i = 7 ∧ field = p.valueB) := by
  obtain ⟨d1, d2, d3, d4, d5, d6⟩ := hdist
  simp only [getFieldSlotIndex, hf, hne, hp, if_false]
  refine ⟨slotIndexOf_ok, ?_⟩
  unfold slotIndexOf
  -- the paths being distinct, no earlier case of the switch takes the field
  rintro (⟨rfl, rfl⟩ | ⟨rfl, rfl⟩ | ⟨rfl, rfl⟩ | ⟨rfl, rfl⟩)
  · rw [if_pos rfl]
  · rw [if_neg d1.symm, if_pos rfl]
  · rw [if_neg d2.symm, if_neg d4.symm, if_pos rfl]
  · rw [if_neg d3.symm, if_neg d5.symm, if_neg d6.symm, if_pos rfl]

/-- Known finding F3, proved on the model (at the level of the parsed attribute `slotIndexB=f&slotValueA=f`):
    a field assigned to two slots is reported at the first only, while claim building writes it to both -/
example : slotIndexOf { indexB := "f", valueA := "f" } "f" = .ok 3 ∧
    fillSlot [("f", 42)] "f" = .ok 42 ∧ fillSlot [("f", 42)] "" = .ok 0 :=
  ⟨rfl, rfl, rfl⟩

/-- the generic facade: what the configured component returns, or an error when it is missing -/
def facade {α : Type} (component : Option (Unit → Except String α)) : Except String α :=
  match component with
  | none => .error "not-defined"
  | some f => f ()

theorem facade_delegates {α : Type} (f : Unit → Except String α) : facade (some f) = f () := rfl
theorem facade_missing {α : Type} : ∃ e, facade (none : Option (Unit → Except String α)) = .error e := ⟨_, rfl⟩

/-- the if-chain of `slotIndexOf` is the table `slotIndexTable` read in order (the table is what the source's switch is
    compared with on every run) -/
theorem slotIndexOf_eq_table (p : SlotPaths) (field : String) : slotIndexOf p field = slotIndexByTable p field := by
  simp only [slotIndexOf, slotIndexByTable, slotIndexTable, List.find?, getField, String.reduceEq, if_true, if_false]
  -- the switch tests `field = _` where `find?` tests `decide (field = _)`: one test after the other, the same on both sides
  by_cases h1 : field = p.indexA <;> simp only [h1, if_true, if_false, decide_true, decide_false]
  by_cases h2 : field = p.indexB <;> simp only [h2, if_true, if_false, decide_true, decide_false]
  by_cases h3 : field = p.valueA <;> simp only [h3, if_true, if_false, decide_true, decide_false]
  by_cases h4 : field = p.valueB <;> simp only [h4, if_true, if_false, decide_true, decide_false]

/-- the four keys set exactly their field and nothing else -/
theorem setField_getField (p : SlotPaths) (v : String) :
    ∀ kf ∈ serKeyTable, getField (setField p kf.2 v) kf.2 = v ∧
      ∀ kf' ∈ serKeyTable, kf'.2 ≠ kf.2 → getField (setField p kf.2 v) kf'.2 = getField p kf'.2 := by
  intro kf hkf
  simp only [serKeyTable, List.mem_cons, List.not_mem_nil, or_false] at hkf
  rcases hkf with rfl | rfl | rfl | rfl <;> refine ⟨by simp [getField, setField], ?_⟩ <;> intro kf' hkf' hne <;>
    simp only [serKeyTable, List.mem_cons, List.not_mem_nil, or_false] at hkf' <;>
    rcases hkf' with rfl | rfl | rfl | rfl <;> simp_all [getField, setField]

end Gsp.Props.C17
