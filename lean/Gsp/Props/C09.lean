import Gsp.Lemmas.Verify
import Gsp.Lemmas.HashCRWitness
import Gsp.Lemmas.Resolve
/-! C09 — revocation status validation accepts only verified non-revocation. -/
namespace Gsp.Props.C09
open Gsp.Smt Gsp.Verify

/-- the issuer tree state is internally consistent: state = H(claims root, revocation root, roots root),
    missing roots meaning zero -/
def TreeStateOk (H3 : Nat → Nat → Nat → Nat) (t : TreeState) : Prop :=
  ∃ s c r o, t.state = .val s ∧ rootOr0 t.claimsRoot = .ok c ∧ rootOr0 t.revRoot = .ok r ∧ rootOr0 t.rootOfRoots = .ok o ∧ H3 c r o = s

theorem validateTreeState_true (H3 : Nat → Nat → Nat → Nat) (t : TreeState) :
    validateTreeState H3 t = .ok true ↔ TreeStateOk H3 t := by
  constructor
  · -- case3 (a state value and three readable roots) is the only one that returns .ok
    fun_cases validateTreeState H3 t with
    | case3 s hs c r o ho hr hc => exact fun h => ⟨s, c, r, o, hs, hc, hr, ho, of_decide_eq_true (Except.ok.inj h)⟩
    | _ => intro h; cases h
  · intro ⟨s, c, r, o, hs, hc, hr, ho, hh⟩
    simp [validateTreeState, hs, hc, hr, ho, hh]

/-- **Soundness**: success only if the tree state is consistent, the proof verifies for the nonce against the
    revocation root, and the proof shows non-existence -/
theorem status_sound (P : List Nat → Nat) (H3 : Nat → Nat → Nat → Nat) (ans : Except String StatusAnswer) (nonce : Nat)
    (h : status P H3 ans nonce = .ok) :
    ∃ a revRoot, ans = .ok a ∧ TreeStateOk H3 a.issuer ∧ rootOr0 a.issuer.revRoot = .ok revRoot ∧
      verify P revRoot a.mtp nonce 0 = true ∧ a.mtp.existence = false := by
  obtain ⟨a, r, ha, hts, h⟩ := status_verdict (.inl rfl) h
  exact ⟨a, r, ha, (validateTreeState_true H3 _).mp hts, h⟩

/-- the distinguished "revoked" outcome is returned exactly when a valid existence proof is presented -/
theorem status_revoked_iff (P : List Nat → Nat) (H3 : Nat → Nat → Nat → Nat) (ans : Except String StatusAnswer) (nonce : Nat) :
    status P H3 ans nonce = .revoked ↔
      ∃ a revRoot, ans = .ok a ∧ TreeStateOk H3 a.issuer ∧ rootOr0 a.issuer.revRoot = .ok revRoot ∧
        verify P revRoot a.mtp nonce 0 = true ∧ a.mtp.existence = true := by
  constructor
  · intro h
    obtain ⟨a, r, ha, hts, h⟩ := status_verdict (.inr rfl) h
    exact ⟨a, r, ha, (validateTreeState_true H3 _).mp hts, h⟩
  · rintro ⟨a, r, rfl, hts, hr, hv, hex⟩
    rw [status_of_checks ((validateTreeState_true H3 _).mpr hts) hr hv, hex]; rfl

theorem missing_roots_zero (H3 : Nat → Nat → Nat → Nat) (s : Hex) :
    validateTreeState H3 ⟨s, .absent, .absent, .absent⟩ = validateTreeState H3 ⟨s, .val 0, .val 0, .val 0⟩ := by
  rfl

/-- the honest answer of an issuer whose revocation tree is `t` (built by inserting the revoked nonces) -/
def honestAnswer (P : List Nat → Nat) (issuer : TreeState) (t : T) (nonce : Nat) : Except String StatusAnswer :=
  match genProof P nonce t 0 maxLevels [] with
  | .error _ => .error "gen-proof"
  | .ok p => .ok ⟨issuer, p⟩

/-- **Against a real revocation tree**: with the honest answer, a nonce is reported non-revoked iff it is
    absent from the tree, and revoked iff it is present (no hash assumption needed) -/
theorem honest_iff (P : List Nat → Nat) (H3 : Nat → Nat → Nat → Nat) (revoked : List Nat) (t : T) (issuer : TreeState) (nonce : Nat)
    (ht : addAll (revoked.map fun n => (n, 0)) .empty = .ok t)
    (hts : TreeStateOk H3 issuer) (hroot : rootOr0 issuer.revRoot = .ok (T.hash P t)) :
    (status P H3 (honestAnswer P issuer t nonce) nonce = .ok ↔ nonce ∉ revoked) ∧
    (status P H3 (honestAnswer P issuer t nonce) nonce = .revoked ↔ nonce ∈ revoked) := by
  obtain ⟨hl, _, _⟩ := lookup_addAll _ .empty t ht
  obtain ⟨p, hp⟩ := genProof_total P nonce t 0 maxLevels [] (fits_addAll _ .empty t fits_empty ht)
  -- the tree maps exactly the revoked nonces, each to 0
  have hlk : lookup nonce t 0 = if nonce ∈ revoked then some 0 else none := by
    rw [hl, ← List.map_reverse, Assoc.lookup_map_const]
    by_cases hin : nonce ∈ revoked <;> simp [hin, lookup]
  -- the honest answer passes every check, so the verdict is what its proof shows
  have hst (hv : rootFromProof P p nonce 0 = some (T.hash P t)) :
      status P H3 (honestAnswer P issuer t nonce) nonce = if p.existence then .revoked else .ok := by
    rw [honestAnswer, hp]
    exact status_of_checks ((validateTreeState_true H3 issuer).mpr hts) hroot (decide_eq_true hv)
  by_cases hin : nonce ∈ revoked
  · obtain ⟨he, hv⟩ := genProof_member P hp (hlk.trans (if_pos hin))
    simp [hst hv, he, hin]
  · obtain ⟨he, hv⟩ := genProof_nonmember P hp (hlk.trans (if_neg hin))
    simp [hst (hv 0), he, hin]

/-- **Any answer** (not only the honest one) that is accepted against the real revocation root tells the truth,
    under the idealised-hash hypothesis: accepted ⇒ the nonce is absent; "revoked" ⇒ it is present -/
theorem any_answer_truthful (P : List Nat → Nat) (hcr : HashCR P) (H3 : Nat → Nat → Nat → Nat) (t : T) (a : StatusAnswer) (nonce : Nat)
    (hroot : rootOr0 a.issuer.revRoot = .ok (T.hash P t)) :
    (status P H3 (.ok a) nonce = .ok → lookup nonce t 0 = none) ∧
    (status P H3 (.ok a) nonce = .revoked → lookup nonce t 0 = some 0) := by
  have key {o : Outcome} (ho : o = .ok ∨ o = .revoked) (h : status P H3 (.ok a) nonce = o) :
      if decide (o = .revoked) then lookup nonce t 0 = some 0 else lookup nonce t 0 = none := by
    obtain ⟨_, r, ha, _, hr, hv, hex⟩ := status_verdict ho h
    cases ha; cases hroot.symm.trans hr
    exact hex ▸ verify_sound P hcr t a.mtp nonce 0 (of_decide_eq_true hv)
  exact ⟨key (.inl rfl), key (.inr rfl)⟩

/-- the built-in HTTP resolver yields an answer only for a 2xx response with a body below the limit that parses -/
theorem httpStatus_ok_iff (code len : Nat) (parses : Bool) :
    httpStatus code len parses = true ↔ 200 ≤ code ∧ code < 300 ∧ len < 16384 ∧ parses = true := by
  unfold httpStatus httpLimit httpLo httpHi
  simp [and_assoc]

/-- non-vacuity: the idealised-hash hypothesis used above is satisfiable (an explicit injective, never-zero function) -/
theorem idealised_hash_exists : ∃ P : List Nat → Nat, Gsp.Smt.HashCR P := ⟨_, Gsp.Smt.hashCR_satisfiable⟩

section Registry
open Gsp.Resolve

/-- **Refinement of the registry to its history**: after any history of registrations, deletions and lookups on the
    verifier's own registry and on the process-wide default one, the resolver asked about a status entry of type `t` is the
    one last registered under *exactly* `t` in the registry in force (the verifier's own one when the option is given,
    the default one otherwise); the lookup is an error when that registration was deleted or never happened -/
theorem resolver_is_last_registered (own : Bool) (t : String) (pre : List Op) (s : St) :
    run s (pre ++ [.resolve own t]) = run s pre ++ [some (lastWrite own t pre ((s.reg own).get t))] := by
  rw [run_resolve_last, final_reg_spec]

/-- no registration of exactly that type in the registry in force: an error, whatever else is registered anywhere -/
theorem unregistered_type_is_error (own : Bool) (t : String) (pre : List Op)
    (hnone : ∀ o t' res, Op.register o t' res ∈ pre → ¬ (o = own ∧ t' = t)) :
    run {} (pre ++ [.resolve own t]) = run {} pre ++ [some none] := by
  rw [resolver_is_last_registered]
  have hacc : (({} : St).reg own).get t = none := by cases own <;> rfl
  rw [hacc, lastWrite_none hnone]

/-- registrations and deletions of *other* types — however similar the names — change nothing for `t` -/
theorem other_types_do_not_answer (own : Bool) (t : String) (pre mid : List Op) (s : St)
    (hmid : ∀ op ∈ mid, match op with
      | .register o t' _ => ¬ (o = own ∧ t' = t)
      | .delete o t' => ¬ (o = own ∧ t' = t)
      | .resolve _ _ => True) :
    (run s (pre ++ mid ++ [.resolve own t])).getLast? = (run s (pre ++ [.resolve own t])).getLast? := by
  rw [resolver_is_last_registered, resolver_is_last_registered, List.getLast?_concat, List.getLast?_concat, lastWrite_append,
    lastWrite_skip hmid]

/-- a verifier that brings its own registry is answered from it alone: the process-wide default registry — whatever was
    registered there, before or in between — has no influence -/
theorem own_registry_isolated (t : String) (pre : List Op) (s : St) (d : Registry) :
    (run s (pre ++ [.resolve true t])).getLast? =
      (run { s with dflt := d } (pre.filter (touches true) ++ [.resolve true t])).getLast? :=
  resolve_last_filter rfl

/-- and without the option the default registry alone decides -/
theorem default_registry_when_no_option (t : String) (pre : List Op) (s : St) (o : Registry) :
    (run s (pre ++ [.resolve false t])).getLast? =
      (run { s with own := o } (pre.filter (touches false) ++ [.resolve false t])).getLast? :=
  resolve_last_filter rfl

/-- non-vacuity: two types that differ only in case, and two that share the fragment after '#', are different keys -/
example : run {} [.register true "SparseMerkleTreeProof" 1, .register true "sparsemerkletreeproof" 2,
      .register false "https://a.example/v#SparseMerkleTreeProof" 3,
      .resolve true "SparseMerkleTreeProof", .resolve true "https://a.example/v#SparseMerkleTreeProof",
      .resolve false "https://a.example/v#SparseMerkleTreeProof", .resolve false "SparseMerkleTreeProof"]
    = [none, none, none, some (some 1), some none, some (some 3), some none] := by decide
end Registry

end Gsp.Props.C09
