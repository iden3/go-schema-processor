import Gsp.Lemmas.Loader
import Gsp.Lemmas.Assoc
/-! C20 — concurrent use of a shared loader is deterministic: under *every* interleaving of the atomic steps
    (cache read, request, cache write) and any passage of time, each load returns what a sequential execution
    returns. (Data-race freedom is a property of the Go memory model and is observed with the race detector.) -/
namespace Gsp.Props.C20
open Gsp.Loader

/-- what a thread may be in the middle of: it requests only a URL that the embedded documents do not answer, and the
    response it is about to store is the origin's document for that URL -/
def GoodPhase (cfg : Cfg) (org : String → Option (Nat × Policy)) : Phase → Prop
  | .idle => True
  | .fetching u => (if cfg.cacheOn then cfg.embedded.lookup u else none) = none
  | .storing u v _ _ => (if cfg.cacheOn then cfg.embedded.lookup u else none) = none ∧ ∃ p, org u = some (v, p)

/-- every entry of the shared cache is the origin's document for a URL that is not embedded (so a hit answers as a
    sequential load would), every thread's unfinished load is a `GoodPhase`, and every result so far is the sequential one -/
structure Inv (cfg : Cfg) (org : String → Option (Nat × Policy)) (s : TSt) : Prop where
  cache : ∀ u v exp, (u, (v, exp)) ∈ s.cache → (∃ p, org u = some (v, p)) ∧ cfg.embedded.lookup u = none
  phases : ∀ ph ∈ s.phases, GoodPhase cfg org ph
  results : ∀ i u r, (i, u, r) ∈ s.results → r = expected cfg org u

section
variable {cfg : Cfg} {org : String → Option (Nat × Policy)} {s : TSt} (hi : Inv cfg org s)
include hi

theorem Inv.setPhase (i : Nat) (x : Phase) (hx : GoodPhase cfg org x) : Inv cfg org { s with phases := s.phases.set i x } :=
  ⟨hi.cache, fun q hq => (List.mem_or_eq_of_mem_set hq).elim (hi.phases q) (· ▸ hx), hi.results⟩

theorem Inv.addResult (i : Nat) {u : String} {r : Res} (hr : r = expected cfg org u) :
    Inv cfg org { s with results := (i, u, r) :: s.results } := by
  refine ⟨hi.cache, hi.phases, fun i' u' r' hm => ?_⟩
  rcases List.mem_cons.mp hm with e | hm
  · cases e; exact hr
  · exact hi.results i' u' r' hm

theorem Inv.cacheSet {u : String} {v : Nat} {p : Policy} (hp : org u = some (v, p)) (exp : Int) :
    Inv cfg org { s with cache := cacheSet cfg s.cache u v exp } := by
  refine ⟨fun u' v' exp' hm => ?_, hi.phases, hi.results⟩
  rcases mem_cacheSet hm with hm | ⟨rfl, e, he⟩
  · exact hi.cache u' v' exp' hm
  · cases e; exact ⟨⟨p, hp⟩, he⟩

end

theorem inv_tstep (cfg : Cfg) (org : String → Option (Nat × Policy)) (s : TSt) (i : Nat) (u : String)
    (hi : Inv cfg org s) : Inv cfg org (tstep cfg org s i u) := by
  unfold tstep
  split
  · exact hi
  · -- idle: answer from a fresh entry (embedded, or cached and then the origin's by `hi.cache`), else go and fetch
    cases hc : cfg.cacheOn with
    | false => exact hi.setPhase i (.fetching u) (by simp [GoodPhase, hc])
    | true =>
      cases hemb : cfg.embedded.lookup u with
      | some ve =>
        have : s.now + 3600 > s.now := Int.lt_add_of_pos_right _ (by decide)
        simp only [if_true, this]
        exact hi.addResult i (by simp [expected, hc, hemb])
      | none =>
        have hfetch := hi.setPhase i (.fetching u) (by simp [GoodPhase, hc, hemb])
        cases hl : s.cache.lookup u with
        | none => exact hfetch
        | some ve =>
          obtain ⟨⟨p, hp⟩, _⟩ := hi.cache u ve.1 ve.2 (Assoc.mem_of_lookup hl)
          simp only [if_true]
          split
          · exact hi.addResult i (by rw [expected_of_not_embedded (by simp [hemb]), hp])
          · exact hfetch
  · next u' hph =>
    have hgood : (if cfg.cacheOn then cfg.embedded.lookup u' else none) = none := hi.phases _ (List.mem_of_getElem? hph)
    split
    · next ho => exact (hi.setPhase i .idle trivial).addResult i (by rw [expected_of_not_embedded hgood, ho])
    · next v p ho => exact hi.setPhase i _ ⟨hgood, p, ho⟩
  · next u' v exp store hph =>
    obtain ⟨hne, p, hp⟩ : GoodPhase cfg org (.storing u' v exp store) := hi.phases _ (List.mem_of_getElem? hph)
    have hr : Res.doc v = expected cfg org u' := by rw [expected_of_not_embedded hne, hp]
    cases store
    · exact (hi.setPhase i .idle trivial).addResult i hr
    · exact (((hi.cacheSet hp exp).setPhase i .idle trivial).addResult i hr)

/-- **Every interleaving is deterministic**: whatever the schedule of the threads' atomic steps and however time
    passes in between, every load of every thread returns exactly what a sequential execution returns. -/
theorem interleaving_deterministic (cfg : Cfg) (org : String → Option (Nat × Policy)) :
    ∀ (sched : List Sched) (s : TSt), Inv cfg org s →
      ∀ i u r, (i, u, r) ∈ (trun cfg org s sched).results → r = expected cfg org u := by
  intro sched
  induction sched with
  | nil => intro s hi i u r hm; exact hi.results i u r hm
  | cons x xs ih =>
    intro s hi
    cases x with
    | move i u => exact ih _ (inv_tstep cfg org s i u hi)
    | tick n => exact ih _ ⟨hi.cache, hi.phases, hi.results⟩

/-- … and every load ends with a document or an error - never with neither (no `(nil, nil)`), whatever the other
    threads do meanwhile, also when the origin fails for that URL -/
theorem interleaving_results_total (cfg : Cfg) (org : String → Option (Nat × Policy)) (sched : List Sched) (s : TSt)
    (hi : Inv cfg org s) : ∀ i u r, (i, u, r) ∈ (trun cfg org s sched).results → (∃ v, r = .doc v) ∨ r = .err := by
  intro i u r hm
  have hr := interleaving_deterministic cfg org sched s hi i u r hm
  subst hr
  unfold expected
  split
  · exact Or.inl ⟨_, rfl⟩
  · split
    · exact Or.inl ⟨_, rfl⟩
    · exact Or.inr rfl

/-- a URL the origin does not serve is an error for every thread that loads it, under every schedule -/
theorem interleaving_failing_url (cfg : Cfg) (org : String → Option (Nat × Policy)) (sched : List Sched) (s : TSt)
    (hi : Inv cfg org s) (u : String) (hu : org u = none) (he : cfg.embedded.lookup u = none) :
    ∀ i r, (i, u, r) ∈ (trun cfg org s sched).results → r = .err := by
  intro i r hm
  have hr := interleaving_deterministic cfg org sched s hi i u r hm
  subst hr
  unfold expected
  simp [he, hu]

theorem inv_init (cfg : Cfg) (org : String → Option (Nat × Policy)) (n : Nat) :
    Inv cfg org { phases := List.replicate n .idle } :=
  ⟨fun _ _ _ => List.not_mem_nil.elim, fun _ hm => List.eq_of_mem_replicate hm ▸ trivial, fun _ _ _ => List.not_mem_nil.elim⟩

/-- merklization, proof generation and value hashing are functions of their inputs in the model
    (no shared state at all): concurrent and sequential results coincide by definition -/
theorem pure_operations_deterministic {α β : Type} (f : α → β) (inputs : List α) (perm : List α) (h : perm.Perm inputs) :
    ∀ x ∈ perm, ∃ y ∈ inputs, f x = f y := fun x hx => ⟨x, h.subset hx, rfl⟩

-- non-vacuity: two threads racing on one URL (both miss, both fetch, both store), then a load after expiry
def demo := (trun ⟨true, [], false, false⟩ (fun u => if u = "u" then some (7, ⟨true, 2⟩) else none)
    { phases := [.idle, .idle] }
    [.move 0 "u", .move 1 "u", .move 0 "u", .move 1 "u", .move 1 "u", .move 0 "u", .tick 3, .move 0 "u", .move 0 "u", .move 0 "u"]).results.map (·.2.2)
example : demo.length = 3 ∧ demo.all (· == .doc 7) = true := by decide

end Gsp.Props.C20
