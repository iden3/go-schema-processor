import Gsp.Lemmas.Claim
import Gsp.Lemmas.Except
/-! C05 — the core claim faithfully and purely encodes credential and options. -/
namespace Gsp.Props.C05
open Gsp.Claim

/-- what the statement says the claim must contain, as numbers -/
structure Expected where
  schema : Nat
  subj : Nat          -- 0 no identifier, 2 index, 3 value
  exp : Nat           -- expiration flag
  upd : Nat
  mrk : Nat           -- 0 none, 1 root in index, 2 root in value
  version : Nat
  revNonce : Nat
  expiration : Nat
  i1 : Nat
  v1 : Nat
  i2 : Nat
  i3 : Nat
  v2 : Nat
  v3 : Nat

def Meets (cl : Claim) (e : Expected) : Prop :=
  cl.i0 = i0Of e.schema e.subj e.exp e.upd e.mrk e.version ∧ cl.v0 = v0Of e.revNonce e.expiration ∧
  cl.i1 = e.i1 ∧ cl.v1 = e.v1 ∧ cl.i2 = e.i2 ∧ cl.i3 = e.i3 ∧ cl.v2 = e.v2 ∧ cl.v3 = e.v3

def expUnix (t : Option Int) : Nat := match t with | some t => (t % (2 ^ 64 : Int)).toNat | none => 0
def updOf (opts : Opts) : Nat := if opts.updatable then 1 else 0
def expOf (c : CredIn) : Nat := if c.expiration.isSome then 1 else 0
def subjOf (opts : Opts) (c : CredIn) : Nat :=
  match c.subject with | none => 0 | some _ => if opts.subjectPos = "value" then 3 else 2
def mrkOf (opts : Opts) (nonM : Bool) : Nat := if nonM then 0 else if opts.rootPos = "value" then 2 else 1
def idIndexOf (opts : Opts) (c : CredIn) : Nat :=
  match c.subject with | some (.ok id) => if opts.subjectPos = "value" then 0 else id | _ => 0
def idValueOf (opts : Opts) (c : CredIn) : Nat :=
  match c.subject with | some (.ok id) => if opts.subjectPos = "value" then id else 0 | _ => 0

/-- the statement, read off literally -/
def expected (opts : Opts) (c : CredIn) (tp : String) (ia ib va vb : Nat) (nonM : Bool) : Expected :=
  { schema := c.schemaOf tp, subj := subjOf opts c, exp := expOf c, upd := updOf opts, mrk := mrkOf opts nonM
    version := opts.version, revNonce := opts.revNonce, expiration := expUnix c.expiration
    i1 := idIndexOf opts c, v1 := idValueOf opts c
    i2 := if mrkOf opts nonM = 1 then c.root else if mrkOf opts nonM = 2 then 0 else ia
    i3 := ib
    v2 := if mrkOf opts nonM = 2 then c.root else if mrkOf opts nonM = 1 then 0 else va
    v3 := vb }

theorem upd_lt (opts : Opts) : updOf opts < 2 := by unfold updOf; split <;> decide
theorem exp_lt (c : CredIn) : expOf c < 2 := by unfold expOf; split <;> decide
theorem subj_lt (opts : Opts) (c : CredIn) : subjOf opts c < 8 := by
  unfold subjOf; split
  · decide
  · split <;> decide

theorem mrk_lt (opts : Opts) (nonM : Bool) : mrkOf opts nonM < 8 := by
  unfold mrkOf; split
  · decide
  · split <;> decide

/-- a schema without serialization attribute always places the root: in the index or in the value -/
theorem mrkOf_merklized (opts : Opts) : mrkOf opts false = 1 ∨ mrkOf opts false = 2 := by
  unfold mrkOf; rw [if_neg (by decide)]; split
  · exact .inr rfl
  · exact .inl rfl

theorem updOf_eq_one (opts : Opts) : updOf opts = 1 ↔ opts.updatable = true := by unfold updOf; split <;> simp [*]
theorem expOf_eq_one (c : CredIn) : expOf c = 1 ↔ c.expiration.isSome = true := by unfold expOf; split <;> simp [*]

/-- stage 1: updatable and expiration -/
theorem stageFlags_spec (opts : Opts) (c : CredIn) (cl : Claim) (s v n : Nat)
    (hi : cl.i0 = i0Of s 0 0 0 0 v) (hv : cl.v0 = v0Of n 0) :
    (stageFlags opts c cl).i0 = i0Of s 0 (expOf c) (updOf opts) 0 v ∧
    (stageFlags opts c cl).v0 = v0Of n (expUnix c.expiration) ∧
    (stageFlags opts c cl).i1 = cl.i1 ∧ (stageFlags opts c cl).v1 = cl.v1 ∧ (stageFlags opts c cl).i2 = cl.i2 ∧
    (stageFlags opts c cl).i3 = cl.i3 ∧ (stageFlags opts c cl).v2 = cl.v2 ∧ (stageFlags opts c cl).v3 = cl.v3 := by
  have f0 : FlagsOk 0 0 0 0 := ⟨by decide, by decide, by decide, by decide⟩
  have hu := setUpdatable_form f0 hi
  unfold stageFlags updOf expOf
  -- in each of the four cases the `if`s and `match`es compute away
  cases opts.updatable <;> cases c.expiration
  · exact ⟨hi, hv, rfl, rfl, rfl, rfl, rfl, rfl⟩
  · exact slots_iff.1 (setExpiration_form _ f0 hi hv)
  · have ⟨a, _, r⟩ := slots_iff.1 hu
    exact ⟨a, hv, r⟩
  · have f1 : FlagsOk 0 0 1 0 := ⟨by decide, by decide, by decide, by decide⟩
    exact slots_iff.1 (setExpiration_form _ f1 (congrArg Claim.i0 hu) hv)

/-- stage 2: the subject identifier -/
theorem stageSubject_spec (opts : Opts) (c : CredIn) (cl cl' : Claim) (s e u v : Nat) (he : e < 2) (hu : u < 2)
    (hi : cl.i0 = i0Of s 0 e u 0 v) (h1 : cl.i1 = 0) (h2 : cl.v1 = 0)
    (h : stageSubject opts c cl = .ok cl') :
    cl'.i0 = i0Of s (subjOf opts c) e u 0 v ∧ cl'.v0 = cl.v0 ∧ cl'.i1 = idIndexOf opts c ∧ cl'.v1 = idValueOf opts c ∧
    cl'.i2 = cl.i2 ∧ cl'.i3 = cl.i3 ∧ cl'.v2 = cl.v2 ∧ cl'.v3 = cl.v3 := by
  have fok : FlagsOk 0 e u 0 := ⟨by decide, he, hu, by decide⟩
  unfold subjOf idIndexOf idValueOf
  rcases stageSubject_ok h with ⟨hs, rfl⟩ | ⟨id, hs, hp, rfl⟩ | ⟨id, hs, hp, rfl⟩
  · rw [hs]
    exact ⟨hi, rfl, h1, h2, rfl, rfl, rfl, rfl⟩
  · simp only [hs, if_neg hp]
    exact slots_iff.1 (setSubject_form 2 fok hi)
  · simp only [hs, if_pos hp]
    exact slots_iff.1 (setSubject_form 3 fok hi)

/-- stage 3: the root, given the effective position -/
theorem stageRoot_spec (opts : Opts) (nonM : Bool) (rootPos : String) (c : CredIn) (cl cl' : Claim) (s sj e u v : Nat)
    (hsj : sj < 8) (he : e < 2) (hu : u < 2) (hi : cl.i0 = i0Of s sj e u 0 v)
    (hrp : effectiveRootPos opts nonM = .ok rootPos) (hz : nonM = false → cl.i2 = 0 ∧ cl.v2 = 0)
    (h : stageRoot rootPos c cl = .ok cl') :
    cl'.i0 = i0Of s sj e u (mrkOf opts nonM) v ∧ cl'.v0 = cl.v0 ∧ cl'.i1 = cl.i1 ∧ cl'.v1 = cl.v1 ∧
    cl'.i2 = (if mrkOf opts nonM = 1 then c.root else if mrkOf opts nonM = 2 then 0 else cl.i2) ∧ cl'.i3 = cl.i3 ∧
    cl'.v2 = (if mrkOf opts nonM = 2 then c.root else if mrkOf opts nonM = 1 then 0 else cl.v2) ∧ cl'.v3 = cl.v3 := by
  have fok : FlagsOk sj e u 0 := ⟨hsj, he, hu, by decide⟩
  unfold mrkOf
  rcases stageRoot_ok hrp h with ⟨rfl, _, _, rfl⟩ | ⟨rfl, ho, _, h'⟩ | ⟨rfl, ho, _, h'⟩
  · exact ⟨hi, rfl, rfl, rfl, rfl, rfl, rfl, rfl⟩
  · unfold setIndexRoot at h'
    split at h' <;> cases h'
    rw [if_neg ho, setMerklized_form 1 fok (c := { cl with v2 := 0 }) hi]
    exact slots_iff.1 rfl
  · unfold setValueRoot at h'
    split at h' <;> cases h'
    rw [if_pos ho, setMerklized_form 2 fok (c := { cl with i2 := 0 }) hi]
    exact slots_iff.1 rfl

/-- a merklized schema has no data slots -/
theorem parseSlots_merklized (attr : String) (fields : List (String × Nat)) (ia ib va vb : Nat)
    (h : parseSlots attr fields = .ok ((ia, ib, va, vb), false)) : ia = 0 ∧ ib = 0 ∧ va = 0 ∧ vb = 0 := by
  revert h
  -- only the branch `attr = ""` returns `.ok (_, false)`; the other `.ok` says `true`
  fun_cases parseSlots attr fields <;> intro h <;> cases h
  exact ⟨rfl, rfl, rfl, rfl⟩

/-- the stages chained: a successful run builds the closed form the statement describes -/
theorem stages_spec {opts : Opts} {c : CredIn} {cl : Claim} (r : Run opts c cl) :
    Meets cl (expected opts c r.tp r.ia r.ib r.va r.vb r.nonM) := by
  obtain ⟨tp, attr, ia, ib, va, vb, nonM, rootPos, cl0, cl1, _, _, _, hslots, hroot, h0, h1, h2⟩ := r
  show Meets cl (expected opts c tp ia ib va vb nonM)
  -- each stage's statement says what every slot is: put the claim it describes in place of the variable, and go on
  cases newClaim_ok h0
  generalize hf : stageFlags opts c _ = clf at h1
  cases slots_iff.2 (hf ▸ stageFlags_spec opts c ⟨_, 0, ia, ib, _, 0, va, vb⟩ _ _ _ rfl rfl)
  cases slots_iff.2 (stageSubject_spec opts c _ cl1 _ _ _ _ (exp_lt c) (upd_lt opts) rfl rfl rfl h1)
  refine stageRoot_spec opts nonM rootPos c _ cl _ _ _ _ _ (subj_lt opts c) (exp_lt c) (upd_lt opts) rfl hroot ?_ h2
  rintro rfl
  obtain ⟨hi, _, hv, _⟩ := parseSlots_merklized attr c.fields ia ib va vb hslots
  exact ⟨hi, hv⟩

/-- **The claim bit-for-bit encodes its inputs.** Whenever `toCoreClaim` succeeds, the credential type, the
    serialization attribute and the slot values were resolved, and the claim is exactly the closed form the
    statement describes. -/
theorem toCoreClaim_spec (o : Option Opts) (c : CredIn) (cl : Claim) (h : toCoreClaim o c = .ok cl) :
    ∃ tp attr ia ib va vb nonM,
      findCredentialType c.subjectTypes c.topTypes = .ok tp ∧ c.attrOf tp = .ok attr ∧
      parseSlots attr c.fields = .ok ((ia, ib, va, vb), nonM) ∧
      Meets cl (expected (o.getD defaultOpts) c tp ia ib va vb nonM) := by
  obtain ⟨r⟩ := toCoreClaim_eq_ok.1 h
  exact ⟨_, _, _, _, _, _, _, r.htp, r.hattr, r.hslots, stages_spec r⟩

/-- hence an independent decoder reads every input back: schema, flags, version, nonce, expiration -/
theorem decode_encode (o : Option Opts) (c : CredIn) (cl : Claim) (h : toCoreClaim o c = .ok cl) :
    ∃ tp ia ib va vb nonM, findCredentialType c.subjectTypes c.topTypes = .ok tp ∧
      let opts := o.getD defaultOpts
      (decode cl).schema = c.schemaOf tp % 2 ^ 128 ∧
      (decode cl).subjectFlag = subjOf opts c ∧
      ((decode cl).expirationFlag = true ↔ c.expiration.isSome = true) ∧
      ((decode cl).updatable = true ↔ opts.updatable = true) ∧
      (decode cl).merklizedFlag = mrkOf opts nonM ∧
      (decode cl).version = opts.version % 2 ^ 32 ∧
      (decode cl).revNonce = opts.revNonce % 2 ^ 64 ∧
      (decode cl).expiration = expUnix c.expiration % 2 ^ 64 ∧
      (decode cl).idIndex = idIndexOf opts c ∧ (decode cl).idValue = idValueOf opts c ∧
      (nonM = false → ((decode cl).merklizedFlag = 1 → (decode cl).i2 = c.root) ∧ ((decode cl).merklizedFlag = 2 → (decode cl).v2 = c.root)) ∧
      (nonM = true → (decode cl).merklizedFlag = 0 ∧ (decode cl).i2 = ia ∧ (decode cl).i3 = ib ∧ (decode cl).v2 = va ∧ (decode cl).v3 = vb) := by
  obtain ⟨tp, attr, ia, ib, va, vb, nonM, htp, _, _, hm⟩ := toCoreClaim_spec o c cl h
  generalize o.getD defaultOpts = opts at *
  simp only [Meets, expected] at hm
  cases slots_iff.2 hm
  rw [decode_closed ⟨subj_lt opts c, exp_lt c, upd_lt opts, mrk_lt opts nonM⟩]
  refine ⟨tp, ia, ib, va, vb, nonM, htp, rfl, rfl, decide_eq_true_iff.trans (expOf_eq_one c),
    decide_eq_true_iff.trans (updOf_eq_one opts), rfl, rfl, rfl, rfl, rfl, rfl, fun _ => ⟨fun h => if_pos h, fun h => if_pos h⟩, ?_⟩
  rintro rfl
  exact ⟨rfl, rfl, rfl, rfl, rfl⟩

/-- **The claim determines its inputs** ("bit-for-bit encodes"): two successful builds that yield the same claim had
    the same schema hash, subject position and identifier, expiration (presence and value), updatable flag, version and
    nonce (within their widths) and the same root position; and when neither schema carries a serialization attribute,
    the same root. -/
theorem claim_inj (o o' : Option Opts) (c c' : CredIn) (cl : Claim)
    (h : toCoreClaim o c = .ok cl) (h' : toCoreClaim o' c' = .ok cl) :
    ∃ tp tp' nonM nonM', findCredentialType c.subjectTypes c.topTypes = .ok tp ∧
      findCredentialType c'.subjectTypes c'.topTypes = .ok tp' ∧
      c.schemaOf tp % 2 ^ 128 = c'.schemaOf tp' % 2 ^ 128 ∧
      subjOf (o.getD defaultOpts) c = subjOf (o'.getD defaultOpts) c' ∧
      (c.expiration.isSome = true ↔ c'.expiration.isSome = true) ∧
      ((o.getD defaultOpts).updatable = true ↔ (o'.getD defaultOpts).updatable = true) ∧
      (o.getD defaultOpts).version % 2 ^ 32 = (o'.getD defaultOpts).version % 2 ^ 32 ∧
      (o.getD defaultOpts).revNonce % 2 ^ 64 = (o'.getD defaultOpts).revNonce % 2 ^ 64 ∧
      expUnix c.expiration % 2 ^ 64 = expUnix c'.expiration % 2 ^ 64 ∧
      idIndexOf (o.getD defaultOpts) c = idIndexOf (o'.getD defaultOpts) c' ∧
      idValueOf (o.getD defaultOpts) c = idValueOf (o'.getD defaultOpts) c' ∧
      mrkOf (o.getD defaultOpts) nonM = mrkOf (o'.getD defaultOpts) nonM' ∧
      (nonM = false → nonM' = false → c.root = c'.root) := by
  obtain ⟨tp, ia, ib, va, vb, nonM, htp, a1, a2, a3, a4, a5, a6, a7, a8, a9, a10, a11, _⟩ := decode_encode o c cl h
  obtain ⟨tp', ia', ib', va', vb', nonM', htp', b1, b2, b3, b4, b5, b6, b7, b8, b9, b10, b11, _⟩ := decode_encode o' c' cl h'
  refine ⟨tp, tp', nonM, nonM', htp, htp', a1.symm.trans b1, a2.symm.trans b2, a3.symm.trans b3, a4.symm.trans b4,
    a6.symm.trans b6, a7.symm.trans b7, a8.symm.trans b8, a9.symm.trans b9, a10.symm.trans b10, a5.symm.trans b5, ?_⟩
  rintro rfl rfl
  obtain ⟨r1, r2⟩ := a11 rfl
  obtain ⟨s1, s2⟩ := b11 rfl
  rcases mrkOf_merklized (o.getD defaultOpts) with hp | hp
  · exact (r1 (a5.trans hp)).symm.trans (s1 (a5.trans hp))
  · exact (r2 (a5.trans hp)).symm.trans (s2 (a5.trans hp))

/-- asking for a root position with a serialization attribute is an error -/
theorem root_pos_error (opts : Opts) (h : opts.rootPos ≠ "") : ∃ e, effectiveRootPos opts true = .error e := by
  unfold effectiveRootPos; simp [h]

theorem unknown_root_pos_error (c : CredIn) (cl : Claim) (p : String) (h1 : p ≠ "index") (h2 : p ≠ "value") (h3 : p ≠ "") :
    ∃ e, stageRoot p c cl = .error e := by
  unfold stageRoot; simp [h1, h2, h3]

structure Store where
  opts : List (Option Opts)
  creds : List CredIn

def call (st : Store) (oi ci : Nat) : Store × Except String Claim :=
  match st.creds[ci]? with
  | none => (st, .error "no-such-credential")
  | some c => (st, toCoreClaim ((st.opts[oi]?).getD none) c)

def run : Store → List (Nat × Nat) → Store × List (Except String Claim)
  | st, [] => (st, [])
  | st, (oi, ci) :: rest =>
    let (st', r) := call st oi ci
    let (st'', rs) := run st' rest
    (st'', r :: rs)

/-- **Purity over histories.** A history is a list of calls, each naming an options object and a credential of a
    store; the store after any history is the store before it, and every call's result is the stand-alone
    result on the initial objects. (The repaired code works on a copy of the options: defect D6.) -/
theorem history_pure (st : Store) (calls : List (Nat × Nat)) :
    (run st calls).1 = st ∧ (run st calls).2 = calls.map fun (oi, ci) => (call st oi ci).2 := by
  induction calls with
  | nil => simp [run]
  | cons x xs ih =>
    obtain ⟨oi, ci⟩ := x
    have hc : call st oi ci = (st, (call st oi ci).2) := by unfold call; split <;> rfl
    simp only [run]
    rw [hc]
    simp [ih.1, ih.2]

/-- **all four slots or no claim**: with a serialization attribute, slot filling succeeds exactly when every one of the four
    designated fields is filled, and then the slots are those four values — a slot that cannot be filled (its field is
    missing from the document) fails the whole build, whichever of the four it is and whatever the others do -/
theorem parseSlots_all_or_nothing (attr : String) (fields : List (String × Nat)) (p : SlotPaths)
    (hattr : attr ≠ "") (hp : parseSer attr = .ok p) :
    (∀ a b c d, parseSlots attr fields = .ok ((a, b, c, d), true) ↔
      (fillSlot fields p.indexA = .ok a ∧ fillSlot fields p.indexB = .ok b ∧
       fillSlot fields p.valueA = .ok c ∧ fillSlot fields p.valueB = .ok d)) ∧
    ((∃ e, fillSlot fields p.indexA = .error e) ∨ (∃ e, fillSlot fields p.indexB = .error e) ∨
      (∃ e, fillSlot fields p.valueA = .error e) ∨ (∃ e, fillSlot fields p.valueB = .error e) →
      ∃ e, parseSlots attr fields = .error e) := by
  refine ⟨fun a b c d => (parseSlots_of_parseSer hattr hp).trans ⟨fun h => h.2, fun h => ⟨rfl, h⟩⟩, fun h => ?_⟩
  refine Except.exists_error_of_not_ok fun r hps => ?_
  obtain ⟨_, h1, h2, h3, h4⟩ := (parseSlots_of_parseSer hattr hp).1 hps
  rcases h with ⟨e, he⟩ | ⟨e, he⟩ | ⟨e, he⟩ | ⟨e, he⟩
  · rw [h1] at he; cases he
  · rw [h2] at he; cases he
  · rw [h3] at he; cases he
  · rw [h4] at he; cases he

end Gsp.Props.C05
