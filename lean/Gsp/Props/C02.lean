import Gsp.Lemmas.Smt
import Gsp.Lemmas.Mz
import Gsp.Lemmas.Assoc
/-! C02 — every leaf is provable and every absent path is provably absent. -/
namespace Gsp.Props.C02
open Gsp.Rdf Gsp.Smt Gsp.Mz

theorem nodup_reverse {α} {l : List α} (h : l.Nodup) : l.reverse.Nodup :=
  h.perm (List.reverse_perm l).symm

theorem kvOf_spec (h : Hasher) : ∀ (es : List Entry) (kvs : List KV), kvOf h es = .ok kvs →
    ∀ x ∈ kvs, keyHash h x.entry.key = .ok x.k ∧ Xsd.enc h x.entry.value = .ok x.v :=
  fun es kvs hk => (kvOf_ok es kvs hk).2

/-- merklizing **into a tree the caller provides** (Go: WithMerkleTree): the entries are added to that tree. Afterwards it
    maps every entry's key to its value and everything else to what it held before; a key the tree already held makes
    the merklization fail rather than overwrite it -/
theorem merklize_into_caller_tree (canon : String → Option String) (h : Hasher) (ds : Dataset) (t₀ : T) (mz : Merklizer)
    (hm : merklize canon h ds t₀ = .ok mz) :
    (∀ q, lookup q mz.tree 0 = match (mz.kvs.map fun x => (x.k, x.v)).reverse.lookup q with
                               | some v => some v
                               | none => lookup q t₀ 0) ∧
    (∀ x ∈ mz.kvs, lookup x.k t₀ 0 = none) ∧ (mz.kvs.map (·.k)).Nodup := by
  obtain ⟨_, _, _, ht⟩ := merklize_ok hm
  obtain ⟨a, b, c⟩ := lookup_addAll _ t₀ _ ht
  exact ⟨a, fun x hx => b (x.k, x.v) (List.mem_map_of_mem (f := fun x => (x.k, x.v)) hx),
    by rw [List.map_map] at c; exact c⟩

/-- the key hashes of a successfully merklized document are pairwise different, and the tree maps exactly them -/
theorem merklize_tree_spec (canon : String → Option String) (h : Hasher) (ds : Dataset) (mz : Merklizer)
    (hm : merklize canon h ds = .ok mz) :
    (mz.kvs.map (·.k)).Nodup ∧
    (∀ q, lookup q mz.tree 0 = (mz.kvs.map fun x => (x.k, x.v)).reverse.lookup q) ∧
    Fits mz.tree maxLevels ∧
    (∀ x ∈ mz.kvs, keyHash h x.entry.key = .ok x.k ∧ Xsd.enc h x.entry.value = .ok x.v) := by
  obtain ⟨es, _, hkvs, ht⟩ := merklize_ok hm
  obtain ⟨a, _, c⟩ := merklize_into_caller_tree canon h ds .empty mz hm
  refine ⟨c, fun q => ?_, fits_addAll _ .empty _ fits_empty ht, kvOf_spec h es _ hkvs⟩
  rw [a q]
  cases List.lookup q (List.map (fun x => (x.k, x.v)) mz.kvs).reverse <;> rfl

theorem lookup_reverse_mem {α} [DecidableEq α] {β} : ∀ (l : List (α × β)) (a : α) (b : β),
    (l.map (·.1)).Nodup → (a, b) ∈ l → l.reverse.lookup a = some b :=
  fun l _ _ hnd hmem =>
    Assoc.lookup_of_mem (by rw [List.map_reverse]; exact nodup_reverse hnd) (List.mem_reverse.mpr hmem)

theorem entryAt_of_mem (mz : Merklizer) (hnd : (mz.kvs.map (·.k)).Nodup) (x : KV) (hx : x ∈ mz.kvs) :
    entryAt mz x.k = some x := by
  unfold entryAt
  have hnd' : (mz.kvs.reverse.map (·.k)).Nodup := by
    rw [List.map_reverse]; exact nodup_reverse hnd
  have hx' : x ∈ mz.kvs.reverse := List.mem_reverse.mpr hx
  generalize mz.kvs.reverse = m at hnd' hx'
  induction m with
  | nil => cases hx'
  | cons y ys ih =>
    rw [List.map_cons, List.nodup_cons] at hnd'
    rcases List.mem_cons.mp hx' with rfl | hm
    · simp
    · have hne : y.k ≠ x.k := fun e => hnd'.1 (e ▸ List.mem_map_of_mem hm)
      simp [hne, ih hnd'.2 hm]

/-- **Member paths**: for every entry of a merklized document, `Proof` returns an existence proof together
    with the entry's value, and the proof verifies against `Root()` for (hash of the path, hash of the value). -/
theorem member_proof (canon : String → Option String) (P : List Nat → Nat) (h : Hasher) (ds : Dataset) (mz : Merklizer)
    (hm : merklize canon h ds = .ok mz) (x : KV) (hx : x ∈ mz.kvs) :
    ∃ π, Mz.proof P h mz x.entry.key = .ok ⟨π, some x.entry.value⟩ ∧ π.existence = true ∧
      Smt.verify P (root P mz) π x.k x.v = true := by
  obtain ⟨hnd, hlk, hfit, hkv⟩ := merklize_tree_spec canon h ds mz hm
  obtain ⟨π, hπ⟩ := genProof_total P x.k mz.tree 0 maxLevels [] hfit
  have hl : lookup x.k mz.tree 0 = some x.v :=
    (hlk _).trans (lookup_reverse_mem _ x.k x.v (by rw [List.map_map]; exact hnd)
      (List.mem_map.mpr ⟨x, hx, rfl⟩))
  obtain ⟨hex, hroot⟩ := genProof_member P hπ hl
  exact ⟨π, by simp [Mz.proof, (hkv x hx).1, hπ, hex, entryAt_of_mem mz hnd x hx], hex, by simp [Smt.verify, root, hroot]⟩

/-- **Absent paths**: a path whose key hash is not the key hash of any entry gets a non-existence proof that
    verifies against `Root()` (for any value), and a nil Value. -/
theorem nonmember_proof (canon : String → Option String) (P : List Nat → Nat) (h : Hasher) (ds : Dataset) (mz : Merklizer)
    (hm : merklize canon h ds = .ok mz) (q : List PathPart) (k : Nat) (hk : keyHash h q = .ok k)
    (hnot : k ∉ mz.kvs.map (·.k)) :
    ∃ π, Mz.proof P h mz q = .ok ⟨π, none⟩ ∧ π.existence = false ∧ ∀ v, Smt.verify P (root P mz) π k v = true := by
  obtain ⟨_, hlk, hfit, _⟩ := merklize_tree_spec canon h ds mz hm
  obtain ⟨π, hπ⟩ := genProof_total P k mz.tree 0 maxLevels [] hfit
  have hl : lookup k mz.tree 0 = none := by
    rw [hlk]
    refine Assoc.lookup_none_of_not_mem ?_
    rw [List.map_reverse, List.mem_reverse, List.map_map]
    exact hnot
  obtain ⟨hex, hroot⟩ := genProof_nonmember P hπ hl
  exact ⟨π, by simp [Mz.proof, hk, hπ, hex], hex, fun v => by simp [Smt.verify, root, hroot v]⟩

/-- `Entry` (hence `JSONLDType`) succeeds exactly for the paths that have an existence proof -/
theorem entry_iff_existence (canon : String → Option String) (P : List Nat → Nat) (h : Hasher) (ds : Dataset) (mz : Merklizer)
    (hm : merklize canon h ds = .ok mz) (q : List PathPart) (k : Nat) (hk : keyHash h q = .ok k) :
    (∃ e, Mz.entry h mz q = .ok e) ↔ (∃ π v, Mz.proof P h mz q = .ok ⟨π, v⟩ ∧ π.existence = true) := by
  by_cases hmem : k ∈ mz.kvs.map (·.k)
  · -- both sides hold: `q` has the key hash of an entry `x`, and `proof` and `entry` see `q` only through that hash
    obtain ⟨x, hx, rfl⟩ := List.mem_map.mp hmem
    obtain ⟨hnd, _, _, hkv⟩ := merklize_tree_spec canon h ds mz hm
    obtain ⟨π, hp, hex, _⟩ := member_proof canon P h ds mz hm x hx
    have hq : Mz.proof P h mz q = Mz.proof P h mz x.entry.key := by rw [Mz.proof, Mz.proof, hk, (hkv x hx).1]
    exact iff_of_true ⟨x.entry, by simp [Mz.entry, hk, entryAt_of_mem mz hnd x hx]⟩ ⟨π, _, hq ▸ hp, hex⟩
  · -- both sides fail: no entry is stored under `k`, and the proof for `q` is a non-existence proof
    obtain ⟨π, hp, hex, _⟩ := nonmember_proof canon P h ds mz hm q k hk hmem
    refine iff_of_false (fun ⟨e, he⟩ => ?_) (fun ⟨π', v, hp', hex'⟩ => ?_)
    · cases hea : entryAt mz k with
      | none => simp [Mz.entry, hk, hea] at he
      | some y =>
        have h1 : y.k = k := by simpa using List.find?_some hea
        exact hmem (List.mem_map.mpr ⟨y, List.mem_reverse.mp (List.mem_of_find?_eq_some hea), h1⟩)
    · cases hp.symm.trans hp'
      simp [hex] at hex'

-- non-vacuity: a concrete two-entry tree with an injective list coding as the node hash
def codeHash : List Nat → Nat := fun xs => xs.foldl (fun acc x => acc * 1000 + x + 1) 7
example : ∃ t, addAll [(5, 50), (6, 60)] .empty = .ok t ∧ lookup 5 t 0 = some 50 ∧ lookup 7 t 0 = none ∧
    (∃ p, genProof codeHash 5 t 0 maxLevels [] = .ok p ∧ p.existence = true ∧ Smt.verify codeHash (T.hash codeHash t) p 5 50 = true) :=
  ⟨.mid (.leaf 6 60) (.leaf 5 50), rfl, rfl, rfl, ⟨true, [codeHash [6, 60, 1]], none⟩, rfl, rfl, rfl⟩

end Gsp.Props.C02
