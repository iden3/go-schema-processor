import Gsp.Model.Schema
import Gsp.Lemmas.Json
/-! C18 — data validation agrees with the JSON Schema specification. Theorems about the Lean validator, which is
    the independent implementation of the specification the property calls for; agreement of the Go library with
    it is the correspondence. -/
namespace Gsp.Props.C18
open Gsp.Json Gsp.Schema

theorem not_spec (rec : J → J → Bool) (s v : J) :
    checkCombinators rec (.obj [("not", s)]) v = !rec s v := by
  simp [checkCombinators, J.get_cons, J.get_nil]

theorem allOf_spec (rec : J → J → Bool) (ss : List J) (v : J) :
    checkCombinators rec (.obj [("allOf", .arr ss)]) v = ss.all fun s => rec s v := by
  simp [checkCombinators, J.get_cons, J.get_nil]

theorem anyOf_spec (rec : J → J → Bool) (ss : List J) (v : J) :
    checkCombinators rec (.obj [("anyOf", .arr ss)]) v = ss.any fun s => rec s v := by
  simp [checkCombinators, J.get_cons, J.get_nil]

theorem oneOf_spec (rec : J → J → Bool) (ss : List J) (v : J) :
    checkCombinators rec (.obj [("oneOf", .arr ss)]) v = ((ss.filter fun s => rec s v).length == 1) := by
  simp [checkCombinators, J.get_cons, J.get_nil]

/-- Boolean algebra of the combinators on a two-element list -/
theorem oneOf_two (rec : J → J → Bool) (a b v : J) :
    checkCombinators rec (.obj [("oneOf", .arr [a, b])]) v = (rec a v != rec b v) := by
  rw [oneOf_spec]
  cases ha : rec a v <;> cases hb : rec b v <;> simp [List.filter, ha, hb]

/-- `if` / `then` / `else`: `then` binds the instances that satisfy `if`, `else` the others -/
theorem if_then_else_spec (rec : J → J → Bool) (c t e v : J) :
    checkCombinators rec (.obj [("if", c), ("then", t), ("else", e)]) v = (if rec c v then rec t v else rec e v) := by
  simp [checkCombinators, J.get_cons, J.get_nil]

/-- without `if`, `then` and `else` say nothing -/
theorem then_else_without_if_ignored (rec : J → J → Bool) (t e v : J) :
    checkCombinators rec (.obj [("then", t), ("else", e)]) v = true := by
  simp [checkCombinators, J.get_cons, J.get_nil]

/-- `contains` (draft-07): some element; (2020-12) at least `minContains` - by default one - and at most `maxContains` -/
theorem contains_spec_draft07 (rec : J → J → Bool) (c : J) (xs : List J) :
    checkArray .d7 rec (.obj [("contains", c)]) xs = xs.any fun x => rec c x := by
  have hf : decide (1 ≤ (xs.filter fun x => rec c x).length) = xs.any fun x => rec c x :=
    Bool.eq_iff_iff.mpr (by simp [Nat.succ_le_iff])
  simp [checkArray, tupleSchemas, restSchema, J.get_cons, J.get_nil, hf]

theorem propertyNames_spec (rec : J → J → Bool) (c : J) (kvs : List (String × J)) :
    checkObject rec (.obj [("propertyNames", c)]) kvs = kvs.all fun kv => rec c (.str kv.1) := by
  simp [checkObject, J.get_cons, J.get_nil]

/-- `dependentRequired`: present member ⇒ the members it names are present; an unknown word under draft-07 -/
theorem dependentRequired_spec (k m : String) (kvs : List (String × J)) :
    checkDependentRequired .d2020 (.obj [("dependentRequired", .obj [(k, .arr [.str m])])]) kvs =
      ((kvs.lookup k).isNone || (kvs.lookup m).isSome) ∧
    checkDependentRequired .d7 (.obj [("dependentRequired", .obj [(k, .arr [.str m])])]) kvs = true := by
  simp only [checkDependentRequired, J.get_cons, if_true, List.all_cons, List.all_nil]
  cases kvs.lookup k <;> simp

/-- the members of a schema object that `checkNode` looks up: `$ref` itself, the others through `checkKeywords` -/
def keywords : List String :=
  ["$ref", "type", "enum", "const", "minimum", "maximum", "exclusiveMinimum", "exclusiveMaximum", "minLength", "maxLength",
   "pattern", "minItems", "maxItems", "prefixItems", "items", "additionalItems", "minProperties", "maxProperties", "required",
   "properties", "additionalProperties", "allOf", "anyOf", "oneOf", "not", "contains", "minContains", "maxContains",
   "propertyNames", "if", "then", "else", "patternProperties", "dependentRequired", "multipleOf"]

theorem checkKeywords_congr (d : Draft) (rec : J → J → Bool) (s s' v : J)
    (h : ∀ k ∈ keywords, s.get k = s'.get k) : checkKeywords d rec s v = checkKeywords d rec s' v := by
  -- `h` as one equation per keyword: every access to the schema in the unfolded checks is one of them
  -- (deciding `"type" ∈ keywords` and so on, keyword by keyword, would make the kernel compare string literals)
  simp only [keywords, List.forall_mem_cons] at h
  -- `-iota`: no `match` in the unfolded checks is on a constructor, so `simp` need not try to reduce each of them
  simp -iota only [checkKeywords, checkType, checkEnumConst, checkBounds, boundOk, multipleOk, checkString, checkArray, tupleSchemas,
    restSchema, checkObject, checkDependentRequired, checkCombinators, h]

/-- looking up a known keyword is not disturbed by an extra member with another name -/
theorem get_add_member (kvs : List (String × J)) (name : String) (x : J) (k : String) (hk : k ≠ name) :
    (J.obj (kvs ++ [(name, x)])).get k = (J.obj kvs).get k := by
  show (kvs ++ [(name, x)]).lookup k = kvs.lookup k
  rw [List.lookup_append, List.lookup_cons, beq_eq_false_iff_ne.mpr hk]
  exact Option.or_none

/-- a keyword the vocabulary does not know is ignored: the verdict of a node depends on the schema object only
    through the members it looks up -/
theorem checkNode_congr (d : Draft) (root : J) (rec : J → J → Bool) (a b : List (String × J)) (v : J)
    (h : ∀ k ∈ keywords, (J.obj a).get k = (J.obj b).get k) : checkNode d root rec (.obj a) v = checkNode d root rec (.obj b) v := by
  unfold checkNode checkRef
  rw [h "$ref" (List.mem_cons_self ..), checkKeywords_congr d rec _ _ v h]

/-- **Annotation members are ignored**: adding a member such as the `$metadata` block to a schema object does
    not change the verdict of that node -/
theorem annotation_ignored (d : Draft) (root : J) (rec : J → J → Bool) (kvs : List (String × J)) (name : String) (x v : J)
    (hname : name ∉ keywords) :
    checkNode d root rec (.obj (kvs ++ [(name, x)])) v = checkNode d root rec (.obj kvs) v :=
  checkNode_congr d root rec _ _ v fun k hk => get_add_member kvs name x k fun e => hname (e ▸ hk)

/-- the references are resolved against the root only through `$defs` / `definitions` / `#`; the verdict depends
    on the root only through `resolveRef` -/
theorem validate_root_congr (d : Draft) (root root' : J) (h : ∀ r, resolveRef root r = resolveRef root' r) :
    ∀ fuel s v, validate d root fuel s v = validate d root' fuel s v := by
  intro fuel
  induction fuel with
  | zero => intro s v; rfl
  | succ f ih =>
    intro s v
    have hrec : validate d root f = validate d root' f := by funext s' v'; exact ih s' v'
    simp only [validate, checkNode, checkRef, hrec, h]

theorem ref_siblings_ignored_draft07 (root : J) (rec : J → J → Bool) (r : String) (target v : J) (siblings : List (String × J))
    (hres : resolveRef root r = some target) :
    checkNode .d7 root rec (.obj (("$ref", .str r) :: siblings)) v = rec target v := by
  simp [checkNode, checkRef, J.get_cons, hres]

/-- `$ref` unfolds to the referenced schema (2020-12: in conjunction with the siblings; draft-07: alone) -/
theorem ref_unfold (d : Draft) (root : J) (rec : J → J → Bool) (r : String) (target v : J)
    (hres : resolveRef root r = some target) :
    checkNode d root rec (.obj [("$ref", .str r)]) v = rec target v := by
  cases d with
  | d7 => exact ref_siblings_ignored_draft07 root rec r target v [] hres
  | d2020 =>
    simp [checkNode, checkRef, J.get_cons, J.get_nil, hres, checkKeywords, checkType, checkEnumConst, checkBounds, boundOk, multipleOk,
      checkCombinators]
    cases v <;> simp [checkString, checkArray, checkObject, checkDependentRequired, tupleSchemas, restSchema, J.get_cons, J.get_nil]

/-- draft-07 array-form `items` (+ `additionalItems`) is 2020-12 `prefixItems` (+ `items`) -/
theorem draft07_items_eq_2020_prefixItems (rec : J → J → Bool) (ps : List J) (rest : Option J) (xs : List J) :
    checkArray .d7 rec (.obj ([("items", .arr ps)] ++ (match rest with | some s => [("additionalItems", s)] | none => []))) xs =
    checkArray .d2020 rec (.obj ([("prefixItems", .arr ps)] ++ (match rest with | some s => [("items", s)] | none => []))) xs := by
  cases rest <;> simp [checkArray, tupleSchemas, restSchema, J.get_cons, J.get_nil]

/-- `type: integer` accepts exactly the numbers with an integral value (1, 1.0, 10e-1) -/
theorem type_integer_accepts_integral (n : String) : typeMatches "integer" (.num n) = isIntegral n := by
  -- the definition's own equation for this pair of patterns; `rfl` would make the kernel compare "integer" with six literals
  rw [typeMatches]

example : isIntegral "1.0" = true ∧ isIntegral "10e-1" = true ∧ isIntegral "1.5" = false := by decide

/-- data that is not a JSON object is an error (defect D11: `null` used to pass) -/
theorem nonobject_rejected (schema data : J) (h : ∀ kvs, data ≠ .obj kvs) : ∃ e, validateData schema data = .error e := by
  unfold validateData
  split
  · exact ⟨_, rfl⟩
  · split
    · next kvs => exact absurd rfl (h kvs)
    · exact ⟨_, rfl⟩

theorem bool_schema (d : Draft) (root : J) (rec : J → J → Bool) (b : Bool) (v : J) : checkNode d root rec (.bool b) v = b := rfl

/-- `multipleOf` on exact decimals: for whole numbers it is divisibility, and the sign plays no part -/
theorem multipleOf_integers (n1 n2 : Bool) (a b : Nat) :
    isMultiple ⟨n1, a, 0⟩ ⟨n2, b, 0⟩ = (b != 0 && a % b == 0) := by
  simp [isMultiple]

/-- both numbers are brought to the smaller of the two exponents first: 0.3 is a multiple of 0.1 and 0.35 is not; 300 (3e2) is a
    multiple of 0.25; nothing is a multiple of 0 -/
example : isMultiple ⟨false, 3, -1⟩ ⟨false, 1, -1⟩ = true ∧ isMultiple ⟨false, 35, -2⟩ ⟨false, 1, -1⟩ = false ∧
    isMultiple ⟨true, 3, 2⟩ ⟨false, 25, -2⟩ = true ∧ isMultiple ⟨false, 3, 0⟩ ⟨false, 0, 0⟩ = false := by decide

theorem multipleOf_ignores_non_numbers (schema : J) (v : J) (hv : ∀ x, v ≠ .num x) : multipleOk schema v = true := by
  unfold multipleOk
  split
  · rename_i x _ ; exact absurd rfl (hv x)
  · rfl

end Gsp.Props.C18
