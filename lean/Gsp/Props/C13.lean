import Gsp.Props.C03
import Gsp.Lemmas.Codec
/-! C13 — binary serialization round-trips to an observationally equal merklizer. -/
namespace Gsp.Props.C13
open Gsp.Rdf Gsp.Smt Gsp.Mz Gsp.Codec

/-- a single entry encoded and decoded on its own is the same entry (key parts, value incl. negative big
    integers, bool, string, time; datatype), whatever follows it in the stream -/
theorem entry_roundtrip (e : Entry) (rest : List Tok) : decodeE (encodeE e ++ rest) = .ok (e, rest) := by
  obtain ⟨k, v, dt⟩ := e
  cases v <;> rfl

theorem entries_roundtrip : ∀ (es : List (String × Entry)) (rest : List Tok),
    decodeEntries es.length ((es.flatMap fun x => Tok.str x.1 :: encodeE x.2) ++ rest) = .ok (es, rest) := by
  intro es
  induction es with
  | nil => intro rest; simp [decodeEntries]
  | cons x xs ih =>
    intro rest
    obtain ⟨k, e⟩ := x
    simp only [List.flatMap_cons, List.length_cons, List.cons_append, List.append_assoc, decodeEntries]
    rw [entry_roundtrip e]
    simp only [ih rest]

theorem flatMap_length_ge : ∀ (es : List (String × Entry)),
    es.length ≤ (es.flatMap fun x => Tok.str x.1 :: encodeE x.2).length := by
  intro es
  induction es with
  | nil => simp
  | cons x xs ih =>
    simp only [List.flatMap_cons, List.length_cons, List.length_append]
    rw [Nat.add_comm xs.length]
    exact Nat.add_le_add (Nat.le_add_left 1 _) ih

/-- **Restore without a tree**: the image's fields come back unchanged (source, compacted form, recorded root,
    safe mode, the entries with their keys in the written order) and the tree is rebuilt by inserting exactly
    the stored entries. -/
theorem mz_roundtrip (P : List Nat → Nat) (h : Hasher) (im : Image) (kvs : List KV) (t : T)
    (hk : kvOf h (im.entries.map (·.2)) = .ok kvs) (ht : addAll (kvs.map fun x => (x.k, x.v)) .empty = .ok t) :
    decodeM P h none (encodeM im) = .ok ⟨im, t⟩ := by
  obtain ⟨src, comp, root, es, safe⟩ := im
  have hlen : ¬ ((es.length : Int) < 0 ∨ (es.length : Int) >
      (((es.flatMap fun x => Tok.str x.1 :: encodeE x.2) ++ [Tok.bool safe]).length : Nat)) :=
    not_or.mpr ⟨Int.not_lt.mpr (Int.natCast_nonneg _), Int.not_lt.mpr (Int.ofNat_le.mpr
      (Nat.le_trans (flatMap_length_ge es) (List.length_append ▸ Nat.le_add_right _ _)))⟩
  -- the header passes (version, non-negative root, no tree to compare); then the count guard, the entries, the tree
  simp only [encodeM, List.cons_append, List.nil_append]
  rw [decodeM, if_neg (fun hv => hv rfl), if_neg (Int.not_lt.mpr (Int.natCast_nonneg root)), decodeM.go, if_neg hlen,
    Int.toNat_natCast, Int.toNat_natCast, entries_roundtrip es [Tok.bool safe]]
  -- `simp only` without lemmas reduces the `match` on a result that has become `.ok _`
  simp only at hk ⊢
  rw [hk]; simp only; rw [ht]

/-- **Same content as the original**: the original tree was built from the same entries in another order
    (Go map order when writing); the restored tree maps every key to the same value. -/
theorem restored_same_content (kvs₁ kvs₂ : List (Nat × Nat)) (t₁ t₂ : T) (hp : kvs₁.Perm kvs₂)
    (h₁ : addAll kvs₁ .empty = .ok t₁) (h₂ : addAll kvs₂ .empty = .ok t₂) :
    ∀ q, lookup q t₁ 0 = lookup q t₂ 0 :=
  C03.content_perm_indep kvs₁ kvs₂ t₁ t₂ hp h₁ h₂

/-- … and in fact the very same tree, hence the same root for any node hash -/
theorem restored_same_tree (kvs₁ kvs₂ : List (Nat × Nat)) (t₁ t₂ : T) (hp : kvs₁.Perm kvs₂)
    (h₁ : addAll kvs₁ .empty = .ok t₁) (h₂ : addAll kvs₂ .empty = .ok t₂) : t₁ = t₂ :=
  addAll_perm kvs₁ kvs₂ t₁ t₂ hp h₁ h₂

/-- **Caller-provided tree**: restoring succeeds only if that tree already has the recorded root -/
theorem provided_tree_only_if_root (P : List Nat → Nat) (h : Hasher) (t₀ : T) (ts : List Tok) (r : Restored)
    (hd : decodeM P h (some t₀) ts = .ok r) : T.hash P t₀ = r.image.root ∧ r.tree = t₀ := by
  obtain ⟨_, _, _, _, _, _, _, hgo, hroot⟩ := decodeM_ok hd
  obtain ⟨_, himg, htree⟩ := decodeM_go_ok hgo
  exact ⟨(hroot t₀ rfl).trans himg.symm, htree t₀ rfl⟩

/-- a negative or oversized entry count is an error before anything is read or allocated (C12) -/
theorem count_guard (P : List Nat → Nat) (h : Hasher) (t₀ : Option T) (src comp : String) (root n : Int) (rest : List Tok)
    (hn : n < 0 ∨ n > rest.length) :
    ∃ e, decodeM P h t₀ (.int mzVersion :: .bytes src :: .bytes comp :: .big root :: .int n :: rest) = .error e := by
  refine Except.exists_error_of_not_ok fun r hd => ?_
  obtain ⟨_, _, _, _, _, _, hts, hgo, _⟩ := decodeM_ok hd
  cases hts
  exact absurd hn (decodeM_go_ok hgo).1

-- non-vacuity: a concrete entry with a negative big integer and an indexed path
example : decodeE (encodeE ⟨[.s "urn:p", .i 1], .int (-5), "http://www.w3.org/2001/XMLSchema#integer"⟩ ++ [.bool true]) =
    .ok (⟨[.s "urn:p", .i 1], .int (-5), "http://www.w3.org/2001/XMLSchema#integer"⟩, [.bool true]) := entry_roundtrip _ _

/-- the boundary of the count guard: a merklizer **without entries** (a document that says nothing) round-trips like any
    other - zero is a valid count, the restored tree is the empty tree -/
theorem empty_merklizer_roundtrip (P : List Nat → Nat) (h : Hasher) (src comp : String) (root : Nat) (safe : Bool) :
    decodeM P h none (encodeM ⟨src, comp, root, [], safe⟩) = .ok ⟨⟨src, comp, root, [], safe⟩, .empty⟩ :=
  mz_roundtrip P h ⟨src, comp, root, [], safe⟩ [] .empty (by simp [kvOf]) (by simp [addAll])

end Gsp.Props.C13
