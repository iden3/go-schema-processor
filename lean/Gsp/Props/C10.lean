import Gsp.Lemmas.Xsd
/-! C10 — standalone value hashing equals the merklized leaf.
    The leaf stored for a literal is `convert dt lit p >>= enc h` (Gsp.Rdf.goEntries + Gsp.Mz.kvOf); the standalone
    API is `valueToHash h dt raw`. `raw` is the JSON value of the natural kind, `lit` the RDF lexical form. -/
namespace Gsp.Props.C10
open Gsp.Xsd

/-- the leaf value of a literal -/
def leaf (canon : String → Option String) (h : Hasher) (dt lit : String) : Except String Nat :=
  match convert canon dt lit h.prime with
  | .error e => .error e
  | .ok x => enc h x

theorem valueToHash_unfold (canon : String → Option String) (ci : Option String) (h : Hasher) (dt : String) (v : GoVal) (s : String)
    (hs : anyToString canon ci v dt = .ok s) : valueToHash canon ci h dt v = leaf canon h dt s := by
  unfold valueToHash leaf
  simp only [hs, bind, Except.bind]
  cases convert canon dt s h.prime <;> rfl

/-- strings (dateTime, string and any non-double datatype given as a JSON string): raw value and lexical form
    are the same string, and so are the hashes -/
theorem standalone_eq_leaf_string (canon : String → Option String) (ci : Option String) (h : Hasher) (dt lit : String)
    (hd : dt ≠ tDouble) : valueToHash canon ci h dt (.str lit) = leaf canon h dt lit := by
  apply valueToHash_unfold
  simp [anyToString, hd]

/-- JSON numbers, every datatype: the dataset spells the number `numberLex dt c w` (json-gold objectToRDF; checked
    against the real conversion by the correspondence), and the standalone API converts the float64 with the same
    function (float64ToString), so the two hashes agree with no side condition (defect D17 was that they did not: the
    API used the 16-digit canonical double, which denotes another integer for whole numbers of more digits). -/
theorem standalone_eq_leaf_number (canon : String → Option String) (ci : Option String) (h : Hasher) (dt c : String)
    (w : Option Int) : valueToHash canon ci h dt (.f64 c w) = leaf canon h dt (numberLex dt c w) := by
  apply valueToHash_unfold
  unfold anyToString
  split <;> rfl

/-- integers given as JSON numbers in any spelling denoting the same integer as the lexical form -/
theorem standalone_eq_leaf_int (canon : String → Option String) (ci : Option String) (h : Hasher) (dt lit c : String)
    (w : Option Int)
    (hdt : isIntType dt = true) (hnb : dt ≠ tBoolean) (hsame : intFromStr (numberLex dt c w) = intFromStr lit) :
    valueToHash canon ci h dt (.f64 c w) = leaf canon h dt lit := by
  rw [standalone_eq_leaf_number]
  unfold leaf
  rw [convert_int canon _ h.prime hdt, convert_int canon lit h.prime hdt, hsame]

/-- booleans given as JSON booleans -/
theorem standalone_eq_leaf_bool (canon : String → Option String) (ci : Option String) (h : Hasher) (b : Bool) :
    valueToHash canon ci h tBoolean (.bool b) = leaf canon h tBoolean (if b then "true" else "false") := by
  apply valueToHash_unfold
  simp [anyToString, tBoolean, tDouble]

/-- booleans given as 0/1 numbers (canonical double spellings "0.0E0"/"1.0E0") hash like false/true -/
theorem standalone_bool_01 (canon : String → Option String) (ci : Option String) (h : Hasher) (b : Bool) :
    valueToHash canon ci h tBoolean (.f64 (if b then "1.0E0" else "0.0E0") (some (if b then 1 else 0))) =
      leaf canon h tBoolean (if b then "true" else "false") := by
  rw [standalone_eq_leaf_number]
  have hd : tBoolean ≠ tDouble := by simp [tBoolean, tDouble]
  have h1 : toString (1 : Int) = "1" := rfl
  have h0 : toString (0 : Int) = "0" := rfl
  cases b <;> simp [numberLex, hd, h0, h1, leaf, convert]

/-- doubles: the leaf holds the hash of the canonical form; a float64 raw value hashes to it, given that the
    canonical form is a fixed point of canonicalisation (assumption on the oracle parameter) -/
theorem standalone_eq_leaf_double (canon : String → Option String) (ci : Option String) (h : Hasher) (lit c : String)
    (hc : canon lit = some c) (hidem : canon c = some c)
    (w : Option Int) : valueToHash canon ci h tDouble (.f64 c w) = leaf canon h tDouble lit := by
  -- `rw [leaf]`, not `unfold leaf`: `unfold` tries to reduce the `match`, and evaluates `tDouble = tBoolean` etc. to do so
  rw [standalone_eq_leaf_number, show numberLex tDouble c w = c from if_pos rfl, leaf, leaf, convert_double, convert_double, hc, hidem]

def kindOf : XVal → String
  | .int _ => "int" | .bool _ => "bool" | .time _ => "time" | .str _ => "str"

def kindOfDatatype (dt : String) : String :=
  if dt = tBoolean then "bool" else if isIntType dt then "int" else if dt = tDateTime then "time" else "str"

/-- the Value returned with a proof has the kind implied by the datatype -/
theorem value_kind (canon : String → Option String) (dt lit : String) (p : Nat) (x : XVal)
    (h : convert canon dt lit p = .ok x) : kindOf x = kindOfDatatype dt := by
  revert h
  -- one case per leaf of the switch; a leaf that returns `.ok` comes with the tests on `dt` that lead to it, which are the tests
  -- of `kindOfDatatype` (1, 2: boolean; 8: an integer type; 10: dateTime; 12: double; 13: any other; the rest return errors)
  fun_cases convert canon dt lit p <;> intro h <;> cases h <;> subst_vars <;> simp [kindOf, kindOfDatatype, *]

end Gsp.Props.C10
