import Gsp.Props.C02
/-! C16 — a configured hasher is honoured end to end: nothing observable depends on the default hasher. -/
namespace Gsp.Props.C16
open Gsp.Rdf Gsp.Cfg

/-- **Non-interference**: with a configured hasher, the entries built from a dataset do not depend on the default -/
theorem entries_noninterference (canon : String → Option String) (h d₁ d₂ : Hasher) (ds : Dataset) :
    (entriesWithHasher canon (some h) d₁ ds).map (·.map fun e => (e.entry, e.keyHasher.prime)) =
    (entriesWithHasher canon (some h) d₂ ds).map (·.map fun e => (e.entry, e.keyHasher.prime)) := by
  simp [entriesWithHasher, getHasher]

/-- every key and value hash of such an entry is the configured hasher's, whatever the default is at the time
    of the call (the poison-default experiment of the correspondence run, for all defaults at once) -/
theorem stored_hashes_use_configured (canon : String → Option String) (h d dlater : Hasher) (ds : Dataset) (es : List EntryH)
    (hes : entriesWithHasher canon (some h) d ds = .ok es) :
    ∀ e ∈ es, e.keyMt = Mz.keyHash h e.entry.key ∧ e.valueMt dlater = Xsd.enc h e.entry.value := by
  intro e he
  simp [EntryH.keyMt, EntryH.valueMt, entriesWithHasher_hashers hes e he, getHasher]

/-- integer ranges follow the configured hasher's prime (C04 at `h.prime`), not the default's -/
theorem range_follows_configured_prime (canon : String → Option String) (h d₁ d₂ : Hasher) (ds : Dataset) :
    (entriesWithHasher canon (some h) d₁ ds).isOk = (entriesWithHasher canon (some h) d₂ ds).isOk := by
  simp [entriesWithHasher, getHasher]

/-- paths and entries created through the merklizer's options hash with the configured hasher -/
theorem options_objects_use_configured (h d : Hasher) (e : Entry) :
    (optionsEntry (some h) d e).keyMt = Mz.keyHash h e.key ∧ (optionsEntry (some h) d e).valueMt d = Xsd.enc h e.value := by
  simp [optionsEntry, getHasher, EntryH.keyMt, EntryH.valueMt]

/-- the value handed out with a proof hashes to the stored leaf value, so (with C02 `member_proof`) every proof
    returned verifies with the keys and values the merklizer hands out -/
theorem handed_out_value_is_leaf (canon : String → Option String) (P : List Nat → Nat) (h : Hasher) (ds : Dataset) (mz : Mz.Merklizer)
    (hm : Mz.merklize canon h ds = .ok mz) (x : Mz.KV) (hx : x ∈ mz.kvs) :
    ∃ π, Mz.proof P h mz x.entry.key = .ok ⟨π, some x.entry.value⟩ ∧ proofValueMt h x.entry.value = .ok x.v ∧
      Smt.verify P (Mz.root P mz) π x.k x.v = true := by
  obtain ⟨π, h1, _, h3⟩ := C02.member_proof canon P h ds mz hm x hx
  obtain ⟨_, _, _, hkv⟩ := C02.merklize_tree_spec canon h ds mz hm
  exact ⟨π, h1, (hkv x hx).2, h3⟩

/-- without configuration the default is used — and only then -/
theorem unconfigured_uses_default (canon : String → Option String) (d : Hasher) (ds : Dataset) (es : List EntryH)
    (hes : entriesWithHasher canon none d ds = .ok es) :
    ∀ e ∈ es, e.keyMt = Mz.keyHash d e.entry.key ∧ e.valueMt d = Xsd.enc d e.entry.value := by
  intro e he
  simp [EntryH.keyMt, EntryH.valueMt, entriesWithHasher_hashers hes e he, getHasher]

theorem applyOpt_comm {κ ℓ τ : Type} (c : MzCfg κ ℓ τ) (a b : MzOpt κ ℓ τ) (h : a.field ≠ b.field) :
    applyOpt (applyOpt c a) b = applyOpt (applyOpt c b) a := by
  cases a <;> cases b <;> first | rfl | exact absurd rfl h

/-- an option never touches a field other than its own: in particular a loader, a tree, a safe-mode or an IPFS option
    listed after `WithHasher` leaves the configured hasher in place (the default is never substituted by a later option) -/
theorem later_options_keep_hasher {κ ℓ τ : Type} (c : MzCfg κ ℓ τ) (os : List (MzOpt κ ℓ τ))
    (h : ∀ o ∈ os, o.field ≠ 0) : (applyOpts c os).hasher = c.hasher := by
  induction os generalizing c with
  | nil => rfl
  | cons o os ih =>
    rw [applyOpts, List.foldl_cons, ← applyOpts, ih _ fun x hx => h x (List.mem_cons_of_mem _ hx)]
    have ho := h o List.mem_cons_self
    cases o <;> first | rfl | exact absurd rfl ho

/-- **the order of options that set different fields is no input**: any two orders give the same configuration -/
theorem option_order_irrelevant {κ ℓ τ : Type} (c : MzCfg κ ℓ τ) (os os' : List (MzOpt κ ℓ τ)) (hp : os.Perm os')
    (hd : os.Pairwise (fun a b => a.field ≠ b.field)) : applyOpts c os = applyOpts c os' := by
  induction hp generalizing c with
  | nil => rfl
  | cons x _ ih => exact ih _ (List.pairwise_cons.mp hd).2
  | swap x y l =>
    simp only [applyOpts, List.foldl_cons]
    rw [applyOpt_comm c y x ((List.pairwise_cons.mp hd).1 x List.mem_cons_self)]
  | trans h1 _ ih1 ih2 => exact (ih1 c hd).trans (ih2 c (hd.perm h1 Ne.symm))

example : (applyOpts ({} : MzCfg Nat Nat Nat) [.withHasher 7, .withLoader 1, .withSafeMode false]).hasher = some 7 ∧
    (applyOpts ({} : MzCfg Nat Nat Nat) [.withLoader 1, .withSafeMode false, .withHasher 7]).hasher = some 7 := by decide

end Gsp.Props.C16
