import Gsp.Model.Safe
import Gsp.Lemmas.CtxSafe
/-! C15 — safe mode never silently drops a field. -/
namespace Gsp.Props.C15
open Gsp.Safe

theorem default_safe : applyOpts [] = true := rfl

theorem options_not_touching_keep_default (n : Nat) : applyOpts (List.replicate n none) = true := by
  unfold applyOpts
  induction n with
  | zero => rfl
  | succ k ih => simpa [List.replicate_succ] using ih

theorem options_last_wins (opts : List (Option Bool)) (b : Bool) : applyOpts (opts ++ [some b]) = b := by
  simp [applyOpts]

/-- **Safe mode**: a document with any undefined property is rejected -/
theorem safe_rejects_undefined (canon : String → Option String) (h : Hasher) (d : Doc) (hu : d.undefined > 0) :
    ∃ e, merklize canon h true d = .error e := by
  unfold merklize
  simp [hu]

/-- … so a successful safe merklization covers every property of the document -/
theorem safe_success_covers (canon : String → Option String) (h : Hasher) (d : Doc) (mz : Mz.Merklizer)
    (hm : merklize canon h true d = .ok mz) : d.undefined = 0 ∧ Mz.merklize canon h d.quads = .ok mz := by
  unfold merklize at hm
  split at hm
  · simp at hm
  · rename_i hc
    simp at hc
    exact ⟨by omega, hm⟩

/-- **Unsafe mode**: the result is exactly the merklization of the document without the undefined properties -/
theorem unsafe_equals_stripped (canon : String → Option String) (h : Hasher) (d : Doc) :
    merklize canon h false d = merklize canon h true { d with undefined := 0 } := by
  simp [merklize]

example : ∃ e, merklize (fun _ => none) (Hashers.small 251) true ⟨[("@default", [])], 2⟩ = .error e :=
  safe_rejects_undefined _ _ _ (by decide)

/-- **Safe mode, stated on the document and its contexts.** When merklization in safe mode succeeds, every dotted
    path that addresses something the document contains - any depth, positions in arrays included - has a stored key
    under the specification of expansion (`Ctx.storedKey`): no property was left out on the way, at any level. -/
theorem safe_success_stores_every_path (canon : String → Option String) (h : Hasher) (s : Ctx.Schema) (fuel : Nat)
    (doc : Ctx.Node) (quads : Rdf.Dataset) (mz : Mz.Merklizer)
    (hm : merklizeDoc canon h true s fuel doc quads = .ok mz) (π : List String)
    (hp : Ctx.present fuel (some doc) π = true) :
    ∃ q, Ctx.storedKey s fuel (topOf s) (some doc) π = .ok q :=
  Ctx.defined_paths_stored s fuel (topOf s) (some doc) π (safe_success_covers canon h _ mz hm).1 hp

/-- a property no context defines - at the top, or inside a nested node - is counted, so safe mode rejects the document -/
theorem undefined_property_rejected (canon : String → Option String) (h : Hasher) (s : Ctx.Schema) (fuel : Nat)
    (doc : Ctx.Node) (quads : Rdf.Dataset) (hu : undefinedOf s fuel doc > 0) :
    ∃ e, merklizeDoc canon h true s fuel doc quads = .error e :=
  safe_rejects_undefined canon h _ hu

def okSchema : Ctx.Schema :=
  { top := 0
    ctxs := [(0, [⟨"addr", "urn:v#addr", "", some 1⟩, ⟨"tags", "urn:v#tags", "", none⟩]),
             (1, [⟨"city", "urn:a#city", "", none⟩])] }
def okDoc : Ctx.Node := .mk [] [("addr", [some (.mk [] [("city", [none])])]), ("tags", [none, none])]
def badDoc : Ctx.Node := .mk [] [("addr", [some (.mk [] [("city", [none]), ("undefinedProp7", [none])])]), ("tags", [none, none])]

/-- non-vacuity: a nested document with a property-scoped context and an array is fully defined, and paths into it are
    present -/
example : undefinedOf okSchema 10 okDoc = 0 ∧ Ctx.present 10 (some okDoc) ["addr", "city"] = true ∧
    Ctx.present 10 (some okDoc) ["tags"] = true := by decide +kernel

/-- the same document with one more property inside the nested node, which no context defines -/
example : undefinedOf okSchema 10 badDoc = 1 := by decide +kernel

/-- `city` is a term of the scoped context of `addr` only: used at the top it is undefined, and counted -/
example : undefinedOf okSchema 10 (.mk [] [("city", [none])]) = 1 := by decide +kernel

end Gsp.Props.C15
