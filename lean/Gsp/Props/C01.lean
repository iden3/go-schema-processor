import Gsp.Lemmas.RdfChain
import Gsp.Lemmas.SmtLeaves
import Gsp.Lemmas.Mz
/-! C01 — merklized entries are exactly the document's facts. Theorems about M2 (`Gsp.Rdf`) and the merklizer wrapper. -/
namespace Gsp.Props.C01
open Gsp.Rdf

def isValueQuad (q : Quad) : Bool :=
  match q.o with
  | .lit _ _ => true
  | .iri _ => true
  | .blank _ => false

/-- the decoded value and datatype the statement assigns to a literal / IRI quad -/
def decoded (canon : String → Option String) (p : Nat) (q : Quad) : Option (Xsd.XVal × String) :=
  match q.o with
  | .lit v dt => match Xsd.convert canon dt v p with
    | .ok x => some (x, dt)
    | .error _ => none
  | .iri v => some (.str v, "")
  | .blank _ => none

theorem isValueQuad_eq (q : Quad) : isValueQuad q = q.isValue := by
  unfold isValueQuad Quad.isValue
  cases q.o <;> rfl

theorem decoded_eq (canon : String → Option String) (p : Nat) (q : Quad) :
    decoded canon p q = (objValue canon p q.o).toOption := by
  unfold decoded objValue
  cases q.o with
  | lit v dt => dsimp only; cases Xsd.convert canon dt v p <;> rfl
  | _ => rfl

/-- Nothing dropped, duplicated or invented (per graph): on success there is exactly one entry per literal/IRI
    quad, in quad order, carrying that quad's value decoded according to its datatype. -/
theorem goEntries_values (canon : String → Option String) (p : Nat) (ds : Dataset) (rel : Rel) (g : String) (all : List Quad) :
    ∀ (qs : List Quad) (i : Nat) (seen : Seen) (es : List Entry),
      goEntries canon p ds rel g all qs i seen = .ok es →
      es.map (fun e => some (e.value, e.datatype)) = (qs.filter isValueQuad).map (decoded canon p) := by
  intro qs
  induction qs with
  | nil => intro _ _ _ h; cases h; rfl
  | cons q rest ih =>
    intro i seen es h
    obtain ⟨k, -, ⟨hv, h'⟩ | ⟨hv, xv, dt, key, es', hxv, -, hes', rfl⟩⟩ := goEntries_cons_ok h
    · simpa [isValueQuad_eq, hv] using ih _ _ _ h'
    · simp [isValueQuad_eq, hv, decoded_eq, hxv, Except.toOption, ih _ _ _ hes']

/-- all literal/IRI quads of the dataset, graphs in sorted name order -/
def valueQuads : Dataset → List Quad
  | [] => []
  | (_, qs) :: rest => qs.filter isValueQuad ++ valueQuads rest

theorem entriesGraphs_values (canon : String → Option String) (p : Nat) (ds : Dataset) (rel : Rel) :
    ∀ (gs : Dataset) (es : List Entry), entriesGraphs canon p ds rel gs = .ok es →
      es.map (fun e => some (e.value, e.datatype)) = (valueQuads gs).map (decoded canon p) := by
  intro gs es
  -- case1: no graph left; case4: this graph's loop and the remaining graphs succeeded; the other cases return .error
  fun_induction entriesGraphs canon p ds rel gs generalizing es with
  | case1 => intro h; cases h; rfl
  | case4 _ _ _ _ h₁ _ h₂ ih =>
    intro h; cases h
    simp [valueQuads, goEntries_values canon p ds rel _ _ _ _ _ _ h₁, ih _ h₂]
  | _ => intro h; cases h

/-- **Completeness / no invention** for the whole dataset: a successful run yields exactly one entry per
    literal- or IRI-valued quad (graphs in sorted order), each with that quad's decoded value and datatype. -/
theorem entries_complete (canon : String → Option String) (p : Nat) (ds : Dataset) (es : List Entry)
    (h : entries canon p ds = .ok es) :
    es.map (fun e => some (e.value, e.datatype)) = (valueQuads (sortedGraphs ds)).map (decoded canon p) ∧
    es.length = (valueQuads (sortedGraphs ds)).length := by
  obtain ⟨rel, -, h⟩ := entries_ok h
  have := entriesGraphs_values canon p ds rel _ es h
  exact ⟨this, by simpa using congrArg List.length this⟩

/-- n-fold parent of a quad index -/
def nthParent (rel : Rel) : Nat → Idx → Option Idx
  | 0, ix => some ix
  | n+1, ix => match rel.parents.lookup ix with
    | none => none
    | some p => nthParent rel n p

/-- if the walk succeeds, the parent chain of the start quad ends within `fuel` steps -/
theorem walk_ok_chain_ends (ds : Dataset) (rel : Rel) :
    ∀ (fuel : Nat) (cur : Idx) (acc r : List PathPart),
      walk ds rel fuel cur acc = .ok r → ∃ n, n < fuel ∧ ∃ top, nthParent rel n cur = some top ∧ rel.parents.lookup top = none := by
  intro fuel
  induction fuel with
  | zero => intro _ _ _ h; cases h
  | succ f ih =>
    intro cur acc r h
    rcases walk_succ_ok h with ⟨hp, -⟩ | ⟨pix, _, _, _, _, _, hp, -, -, -, -, -, h'⟩
    · exact ⟨0, Nat.zero_lt_succ f, cur, rfl, hp⟩
    · obtain ⟨n, hn, top, h1, h2⟩ := ih _ _ _ h'
      exact ⟨n+1, Nat.succ_lt_succ hn, top, by rw [nthParent, hp]; exact h1, h2⟩

/-- **Cycles are rejected**: if the parent chain of a quad never ends (a reference cycle), the walk returns
    an error for every fuel — never a path, never non-termination. -/
theorem cycle_rejected (ds : Dataset) (rel : Rel) (fuel : Nat) (cur : Idx) (acc : List PathPart)
    (hcyc : ∀ n top, nthParent rel n cur = some top → rel.parents.lookup top ≠ none) :
    ∃ e, walk ds rel fuel cur acc = .error e :=
  Except.exists_error_of_not_ok fun r h =>
    let ⟨n, _, top, h1, h2⟩ := walk_ok_chain_ends ds rel fuel cur acc r h
    hcyc n top h1 h2

theorem uniqueParent_two (a b : Idx) (rest : List Idx) : ∃ e, uniqueParent (a :: b :: rest) = .error e :=
  ⟨_, rfl⟩

/-- if some quad of the list has an erroring `findParent`, building the relationship fails -/
theorem relGraph_error (ds : Dataset) (g : String) :
    ∀ (qs : List Quad) (i : Nat) (rel : Rel) (j : Nat) (q : Quad) (e : String),
      qs[j]? = some q → findParent ds (g, i + j) q = .error e → ∃ e', relGraph ds g qs i rel = .error e' := by
  intro qs i rel j q e hq hf
  refine Except.exists_error_of_not_ok fun rel' h => ?_
  obtain ⟨r, hr⟩ := (relGraph_ok h).1 _ (List.mk_add_mem_zipIdx_iff_getElem?.mpr hq)
  cases hf.symm.trans hr

/-- **Multi-parent rejected (graph level)**: a quad whose subject is the object of two other quads of its own
    graph makes `findParentInsideGraph` — hence `findParent` — fail. -/
theorem multi_parent_findParent (ds : Dataset) (self : Idx) (q : Quad) (g : String) (qs : List Quad) (a b : Idx) (rest : List Idx)
    (hg : graphName q = .ok g) (hl : ds.lookup g = some qs) (hs : scanGraph g self q.s qs 0 = a :: b :: rest) :
    ∃ e, findParent ds self q = .error e := by
  unfold findParent findParentInsideGraph
  simp only [hg, hl, hs]
  cases selfReferenced g self q.s qs 0 <;> exact ⟨_, rfl⟩

/-- **a node that refers to itself is rejected** (a reference cycle of length one; defect D13) -/
theorem self_reference_rejected (ds : Dataset) (self : Idx) (q : Quad) (g : String) (qs : List Quad)
    (hg : graphName q = .ok g) (hl : ds.lookup g = some qs) (hs : selfReferenced g self q.s qs 0 = true) :
    ∃ e, findParent ds self q = .error e := by
  unfold findParent findParentInsideGraph
  simp only [hg, hl, hs, if_true]
  exact ⟨_, rfl⟩

/-- **Multi-parent rejected (document level)**: a dataset in which some node is the object of two other quads of its
    own graph is not merklized at all — `entries` is an error, whatever else the dataset holds and whatever order the
    graph map is iterated in. Never a path under an arbitrary one of the parents. -/
theorem multi_parent_rejected (canon : String → Option String) (p : Nat) (ds : Dataset) (g : String) (qs : List Quad)
    (k : Nat) (q : Quad) (a b : Idx) (rest : List Idx)
    (hl : ds.lookup g = some qs) (hq : qs[k]? = some q) (hg : graphName q = .ok g)
    (hs : scanGraph g (g, k) q.s qs 0 = a :: b :: rest) : ∃ e, entries canon p ds = .error e := by
  obtain ⟨e, he⟩ := multi_parent_findParent ds (g, k) q g qs a b rest hg hl hs
  exact entries_error_of_findParent hl hq he

/-- … and so is a dataset with a node that refers to itself -/
theorem self_reference_rejected_entries (canon : String → Option String) (p : Nat) (ds : Dataset) (g : String) (qs : List Quad)
    (k : Nat) (q : Quad) (hl : ds.lookup g = some qs) (hq : qs[k]? = some q) (hg : graphName q = .ok g)
    (hs : selfReferenced g (g, k) q.s qs 0 = true) : ∃ e, entries canon p ds = .error e := by
  obtain ⟨e, he⟩ := self_reference_rejected ds (g, k) q g qs hg hl hs
  exact entries_error_of_findParent hl hq he

/-- **Index exactness** (one graph): on success the key of every literal/IRI quad's entry ends with the quad's own
    predicate when its (subject, predicate, graph) key occurs once in the graph, and otherwise with
    `nbBefore pre k` - the number of literal/IRI quads of the same key before it. -/
theorem index_exact (canon : String → Option String) (p : Nat) (ds : Dataset) (rel : Rel) (g : String) (all : List Quad)
    (es : List Entry) (hall : ds.lookup g = some all) (h : goEntries canon p ds rel g all all 0 [] = .ok es) :
    es.map (fun e => e.key.getLast?) = (lastSpec all [] all).map some :=
  goEntries_last (fun _ hy => getQuad_of_lookup hall (List.mem_zipIdx_iff_getElem?.mp hy)) (SeenOK.nil all) h

/-- the indices handed out for one key are exactly 0, 1, …, n-1 in quad order: no gap, no repeat, no index on a
    value that is not there -/
theorem sibling_indices_consecutive (k : QKey) (all : List Quad) :
    idxSeq k [] all = List.range (nbBefore all k) := by
  rw [idxSeq_range k all [], List.range_eq_range']
  simp [nbBefore]

/-- a key ends with the quad's predicate and its index part; what precedes comes from the parent chain only -/
theorem key_shape (ds : Dataset) (rel : Rel) (ix : Idx) (idx : Option Nat) (key : List PathPart)
    (h : path ds rel ix idx = .ok key) :
    ∃ q up, getQuad ds ix = .ok q ∧ key = up ++ [PathPart.s q.p] ++ idxPart idx :=
  let ⟨q, up, hq, hk, _⟩ := path_spec h
  ⟨q, up, hq, hk⟩

/-- **Path = property IRIs from the top-level node down to the field.** For a dataset whose graph names are distinct
    (they are the keys of a Go map) and that merklizes successfully, the i-th entry belongs to the i-th literal/IRI
    quad (graphs in sorted order), and its key, positions erased, is `ps ++ [p]`: `p` the quad's own predicate and
    `ps` the predicates of the chain of quads through which the quad's subject is reached from a top-level node —
    each link being the node's *unique* referrer (`referrer_unique`). No part is invented, dropped or reordered. -/
theorem entries_pred_chain (canon : String → Option String) (p : Nat) (ds : Dataset) (es : List Entry)
    (hnd : (names ds).Nodup) (h : entries canon p ds = .ok es) :
    AllPairs (fun e ix => ∃ q ps, getQuad ds ix = .ok q ∧ RefChain ds ix ps ∧ strs e.key = ps ++ [q.p])
      es (valueIdxsGraphs (sortedGraphs ds)) := by
  obtain ⟨rel, hrel, h⟩ := entries_ok h
  exact (entriesGraphs_keys h).imp fun e ix ⟨idx, hp⟩ => path_refChain hnd hrel hp

/-- what a link of the chain is: when `findParent` succeeds for a quad, the quads referring to the node it
    describes (`referrers`: same-graph quads with that node as object, else quads anywhere whose object is the
    quad's graph node) are none (top level) or exactly the one returned -/
theorem referrer_unique (ds : Dataset) (self : Idx) (q : Quad) (g : String) (qs : List Quad) (r : Option Idx)
    (hg : graphName q = .ok g) (hl : ds.lookup g = some qs) (h : findParent ds self q = .ok r) :
    referrers ds self q g qs = r.toList :=
  findParent_spec hg hl h

/-- membership in the scan that `referrers` is made of: exactly the other quads of the graph whose object is the node -/
theorem referrers_scan (g : String) (self : Idx) (key : Ref) (qs : List Quad) (ix : Idx) :
    ix ∈ scanGraph g self key qs 0 ↔ ∃ j q, qs[j]? = some q ∧ ix = (g, j) ∧ ix ≠ self ∧ q.o.ref? = some key := by
  simp only [mem_scanGraph, Prod.exists, List.mk_mem_zipIdx_iff_getElem?]
  exact exists_comm

/-- the parent map used by the walk is `findParent`, quad by quad -/
theorem parent_map_spec (ds : Dataset) (rel : Rel) (hnd : (names ds).Nodup) (h : newRelationship ds = .ok rel)
    (g : String) (k : Nat) (q : Quad) (hq : getQuad ds (g, k) = .ok q) :
    ∃ r, findParent ds (g, k) q = .ok r ∧ rel.parents.lookup (g, k) = r :=
  parents_spec ds rel hnd h g k q hq

/-- **node siblings are numbered exactly 0 … m-1**: every child map built for a parent (subject, predicate, graph)
    holds pairwise different child nodes carrying the positions 0, 1, …, m-1 in order of first appearance; the walk
    puts a child's position into the path iff its map has more than one child (definition of `walk`), so the
    positions that appear under one property are exactly 0 … m-1 -/
theorem node_sibling_positions (ds : Dataset) (rel : Rel) (h : newRelationship ds = .ok rel)
    (k : QKey) (cm : ChildMap) (hm : (k, cm) ∈ rel.children) :
    cm.map (·.2) = List.range cm.length ∧ (cm.map (·.1)).Nodup ∧ cm ≠ [] :=
  newRelationship_childrenOK h (k, cm) hm

/-- … and a position looked up for a child is below the number of children -/
theorem node_sibling_position_lt (ds : Dataset) (rel : Rel) (h : newRelationship ds = .ok rel)
    (k : QKey) (cm : ChildMap) (hm : (k, cm) ∈ rel.children) (c : Ref) (n : Nat) (hl : cm.lookup c = some n) : n < cm.length :=
  List.mem_range.mp ((newRelationship_childrenOK h (k, cm) hm).1 ▸ List.mem_map.mpr ⟨_, Assoc.mem_of_lookup hl, rfl⟩)

/-- **The leaves of the tree are exactly the entries**: after a successful merklization (default or caller-provided
    empty tree) the list of leaves of the Merkle tree is a permutation of the list of (key hash, value hash) pairs of
    the entries - nothing merged, nothing dropped, nothing invented - and so there are as many leaves as entries, and
    as many as the dataset has literal- and IRI-valued quads. -/
theorem leaves_are_the_entries (canon : String → Option String) (h : Hasher) (ds : Dataset) (mz : Mz.Merklizer)
    (hm : Mz.merklize canon h ds = .ok mz) :
    (Smt.leaves mz.tree).Perm (mz.kvs.map fun x => (x.k, x.v)) ∧
    (Smt.leaves mz.tree).length = mz.kvs.length ∧
    mz.kvs.length = (valueQuads (sortedGraphs ds)).length := by
  obtain ⟨es, hes, hkvs, ht⟩ := Mz.merklize_ok hm
  have hp := Smt.leaves_addAll _ .empty _ ht
  simp only [Smt.leaves, List.append_nil] at hp
  refine ⟨hp, by simpa using hp.length_eq, ?_⟩
  -- one (key, value) pair per entry, one entry per literal/IRI quad
  rw [← (entries_complete canon h.prime ds es hes).2, ← (Mz.kvOf_ok es _ hkvs).1, List.length_map]

-- non-vacuity: the documents probed against the real code
def I (v : String) : Ref := ⟨.iri, v⟩
def B (v : String) : Ref := ⟨.blank, v⟩
def noCanon : String → Option String := fun _ => none

/-- two-node cycle (defect D1): rejected -/
example : entries noCanon 7 [("@default", [ ⟨I "a", "p", .iri "b", none⟩, ⟨I "b", "q", .iri "a", none⟩ ])] = .error "cycle" := rfl
/-- multi-parent: rejected -/
example : ∃ e, entries noCanon 7 [("@default", [ ⟨I "a", "p", .iri "c", none⟩, ⟨I "a", "q", .iri "c", none⟩, ⟨I "c", "n", .lit "x" "", none⟩ ])] = .error e :=
  ⟨"multiple-parents", rfl⟩
/-- self reference (defect D13): rejected -/
example : ∃ e, entries noCanon 7 [("@default", [ ⟨I "a", "name", .lit "x" "", none⟩, ⟨I "a", "related", .iri "a", none⟩ ])] = .error e :=
  ⟨"cycle", rfl⟩
/-- mixed literal / blank-child siblings -/
example : (entries noCanon 7 [("@default", [
    ⟨I "a", "tags", .lit "a" "s", none⟩, ⟨I "a", "tags", .lit "b" "s", none⟩,
    ⟨I "a", "items", .blank "_:b0", none⟩, ⟨I "a", "items", .blank "_:b1", none⟩,
    ⟨B "_:b0", "n", .lit "1" "s", none⟩, ⟨B "_:b1", "n", .lit "2" "s", none⟩ ])]).map (·.map (·.key)) =
  .ok [[.s "tags", .i 0], [.s "tags", .i 1], [.s "items", .i 0, .s "n"], [.s "items", .i 1, .s "n"]] := rfl

/-- a reference chain of length one exists in that dataset: quad 4 (`_:b0 n 1`) is reached through quad 2 (`items`) -/
example : RefChain [("@default", [
    ⟨I "a", "tags", .lit "a" "s", none⟩, ⟨I "a", "tags", .lit "b" "s", none⟩,
    ⟨I "a", "items", .blank "_:b0", none⟩, ⟨I "a", "items", .blank "_:b1", none⟩,
    ⟨B "_:b0", "n", .lit "1" "s", none⟩, ⟨B "_:b1", "n", .lit "2" "s", none⟩ ])] ("@default", 4) ([] ++ ["items"]) :=
  RefChain.step _ ⟨B "_:b0", "n", .lit "1" "s", none⟩ ("@default", 2) ⟨I "a", "items", .blank "_:b0", none⟩ []
    rfl rfl rfl
    (RefChain.top _ ⟨I "a", "items", .blank "_:b0", none⟩ rfl rfl)

end Gsp.Props.C01
