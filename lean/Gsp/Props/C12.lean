import Gsp.Model.Ctx
import Gsp.Props.C01
import Gsp.Props.C13
import Gsp.Props.C08
/-! C12 — total on untrusted input: an error, never a panic or a hang.
    Every model function is a total Lean function (accepted by the termination checker without `partial`), so
    "returns in bounded time" holds for the models by construction; the theorems below name the specific bad
    outcomes that must be — and are — unreachable, each tied to the Go code by the correspondence. -/
namespace Gsp.Props.C12
open Gsp.Rdf Gsp.Smt Gsp.Verify

/-- the parent walk performs at most `fuel` steps and returns: with fuel `n` it either finds the top within
    `n` parents or reports an error — it cannot run longer (the pre-fix loop had no bound; defect D1) -/
theorem path_bounded (ds : Dataset) (rel : Rel) (fuel : Nat) (cur : Idx) (acc r : List PathPart)
    (h : walk ds rel fuel cur acc = .ok r) :
    ∃ n, n < fuel ∧ ∃ top, Gsp.Props.C01.nthParent rel n cur = some top ∧ rel.parents.lookup top = none :=
  Gsp.Props.C01.walk_ok_chain_ends ds rel fuel cur acc r h

/-- a reference cycle is an error for every fuel (never a hang, never an arbitrary path) -/
theorem entries_no_diverge (ds : Dataset) (rel : Rel) (fuel : Nat) (cur : Idx) (acc : List PathPart)
    (hcyc : ∀ n top, Gsp.Props.C01.nthParent rel n cur = some top → rel.parents.lookup top ≠ none) :
    ∃ e, walk ds rel fuel cur acc = .error e :=
  Gsp.Props.C01.cycle_rejected ds rel fuel cur acc hcyc

/-- a negative or oversized entry count is an error before anything is read or allocated (defect D2) -/
theorem unmarshal_count_guard (P : List Nat → Nat) (h : Hasher) (t₀ : Option T) (src comp : String) (root n : Int)
    (rest : List Codec.Tok) (hn : n < 0 ∨ n > rest.length) :
    ∃ e, Codec.decodeM P h t₀ (.int Codec.mzVersion :: .bytes src :: .bytes comp :: .big root :: .int n :: rest) = .error e :=
  Gsp.Props.C13.count_guard P h t₀ src comp root n rest hn

/-- a hasher that yields no element (Go: a nil result / an error, e.g. Poseidon on the empty message) makes the
    value encoding an error — the nil is never forwarded into the tree (defect D10) -/
theorem enc_total_string (h : Hasher) (s : String) (hnone : h.hashBytes s.toUTF8.toList = none) :
    ∃ e, Xsd.enc h (.str s) = .error e :=
  ⟨"hash-bytes", by rw [Xsd.enc, hnone]⟩

theorem keyHash_total (h : Hasher) (v : String) (rest : List PathPart) (hnone : h.hashBytes v.toUTF8.toList = none) :
    ∃ e, Mz.keyHash h (.s v :: rest) = .error e :=
  ⟨"hash-bytes", by rw [Mz.keyHash, Mz.keyHash.go, hnone]⟩

/-- the verifiers return an error for every combination of absent optional members (defect D3): no outcome
    other than ok / err / revoked exists in the model, and absent members never give ok -/
theorem verify_no_panic_bjj (P : List Nat → Nat) (H3 : Nat → Nat → Nat → Nat) (b : BjjBundle)
    (h : b.authMtp = none ∨ b.issuer.state.state = .absent ∨ b.issuer.state.claimsRoot = .absent ∨ b.resolved = .noStateInfo) :
    bjj P H3 b ≠ .ok := by
  intro hok
  obtain ⟨e, he⟩ := Gsp.Props.C08.smtp_missing_members P H3 b.authSmt h
  exact nomatch he.symm.trans (smtProof_of_bjj_ok hok)

theorem verify_no_panic_smt (P : List Nat → Nat) (H3 : Nat → Nat → Nat → Nat) (b : SmtBundle)
    (h : b.mtp = none ∨ b.issuer.state.state = .absent ∨ b.issuer.state.claimsRoot = .absent ∨ b.resolved = .noStateInfo) :
    ∃ e, smtProof P H3 b = .err e :=
  Gsp.Props.C08.smtp_missing_members P H3 b h

theorem status_missing_state (P : List Nat → Nat) (H3 : Nat → Nat → Nat → Nat) (a : StatusAnswer) (nonce : Nat)
    (h : a.issuer.state = .absent) : ∃ e, status P H3 (.ok a) nonce = .err e := by
  unfold status validateTreeState
  simp [h]

/-- a type whose scoped context cannot be loaded or parsed makes the application of a node's type-scoped contexts fail -
    **at whatever position of the type list it stands**, whatever stands before or after it -/
theorem applyTypes_fails_at_any_position (s : Ctx.Schema) (lookupIn : Ctx.Active) (ts : List String) (t : String)
    (td : Ctx.TermDef) (id : Ctx.CtxId) (ht : t ∈ ts) (hl : Ctx.lookupTerm lookupIn t = some td) (hs : td.sub = some id)
    (hbad : Ctx.termsOf s id = none) : ∀ a, Ctx.applyTypes s lookupIn a ts = none := by
  intro a
  -- case1: no types left; for the head type x: case2 not a term, case3 its context cannot be applied, case4 applied, go on
  fun_induction Ctx.applyTypes s lookupIn a ts with
  | case1 => cases ht
  | case2 a x xs hx ih =>
    exact ih ((List.mem_cons.mp ht).resolve_left fun e => by rw [← e, hl] at hx; cases hx)
  | case3 => rfl
  | case4 a x xs tdx hx a' ha ih =>
    refine ih ((List.mem_cons.mp ht).resolve_left fun e => ?_)
    rw [← e, hl] at hx; cases hx
    simp [Ctx.applyCtx, hs, hbad] at ha

/-- … and the document-side resolver then answers with an error (a result, not a crash) for every path into that node -/
theorem doc_path_context_failure_is_error (s : Ctx.Schema) (fuel : Nat) (a : Ctx.Active) (node : Ctx.Node) (acc : Bool)
    (p : String) (rest : List String) (hn : Ctx.isNumeric p = false)
    (h : Ctx.applyTypes s a a (Ctx.sortS node.types) = none) :
    Ctx.pathFromDocument s (fuel+1) a (.single (some node)) acc (p :: rest) = .error "context-load" := by
  simp [Ctx.pathFromDocument, hn, h]

end Gsp.Props.C12
