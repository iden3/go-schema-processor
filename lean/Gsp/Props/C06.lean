import Gsp.Props.C05
import Gsp.Model.Verify
import Gsp.Props.C14
/-! C06 — a proof is accepted only for the credential its claim was derived from. -/
namespace Gsp.Props.C06
open Gsp.Claim Gsp.Props.C05 Gsp.Verify

/-- **Soundness of the binding check**: it passes only if re-deriving the claim from the credential with the
    positions, nonce, version and flags carried by the proof's claim reproduces that claim exactly -/
theorem bind_sound (cred : CredIn) (c : Claim) (h : bindCheck cred c = .ok ()) :
    toCoreClaim (some (optsOfClaim c)) cred = .ok c := by
  revert h
  fun_cases bindCheck cred c <;> intro h <;> cases h
  assumption

/-- hence the proof's claim is the closed form of *this* credential: for a merklized schema it carries this
    credential's Merkle root, for a serialized schema this credential's designated field encodings; and it
    carries this credential's type hash, expiration and subject identifier -/
theorem bind_pins_credential (cred : CredIn) (c : Claim) (h : bindCheck cred c = .ok ()) :
    ∃ tp ia ib va vb nonM, findCredentialType cred.subjectTypes cred.topTypes = .ok tp ∧
      (decode c).schema = cred.schemaOf tp % 2 ^ 128 ∧
      ((decode c).expirationFlag = true ↔ cred.expiration.isSome = true) ∧
      (decode c).expiration = expUnix cred.expiration % 2 ^ 64 ∧
      (decode c).idIndex = idIndexOf (optsOfClaim c) cred ∧ (decode c).idValue = idValueOf (optsOfClaim c) cred ∧
      (nonM = false → ((decode c).merklizedFlag = 1 → c.i2 = cred.root) ∧ ((decode c).merklizedFlag = 2 → c.v2 = cred.root) ∧
          ((decode c).merklizedFlag = 1 ∨ (decode c).merklizedFlag = 2)) ∧
      (nonM = true → c.i2 = ia ∧ c.i3 = ib ∧ c.v2 = va ∧ c.v3 = vb) := by
  obtain ⟨tp, ia, ib, va, vb, nonM, htp, d0, _, d2, _, d4, _, _, d7, d8, d9, d10, d11⟩ :=
    decode_encode (some (optsOfClaim c)) cred c (bind_sound cred c h)
  refine ⟨tp, ia, ib, va, vb, nonM, htp, d0, d2, d7, d8, d9, ?_, fun hn => (d11 hn).2⟩
  rintro rfl
  exact ⟨(d10 rfl).1, (d10 rfl).2, (mrkOf_merklized _).imp d4.trans d4.trans⟩

/-- two credentials accepted for one and the same proof claim have the same Merkle root (merklized schemas):
    with C03's root binding, the same merklized statements -/
theorem same_claim_same_root (cred cred' : CredIn) (c : Claim)
    (h : bindCheck cred c = .ok ()) (h' : bindCheck cred' c = .ok ())
    (hm : (decode c).merklizedFlag = 1 ∨ (decode c).merklizedFlag = 2)
    (hnm : ∀ tp attr s, cred.attrOf tp = .ok attr → parseSlots attr cred.fields = .ok (s, true) → False)
    (hnm' : ∀ tp attr s, cred'.attrOf tp = .ok attr → parseSlots attr cred'.fields = .ok (s, true) → False) :
    cred.root = cred'.root := by
  obtain ⟨tp, attr, ia, ib, va, vb, nonM, _, ha, hp, m⟩ := toCoreClaim_spec _ _ _ (bind_sound cred c h)
  obtain ⟨tp', attr', ia', ib', va', vb', nonM', _, ha', hp', m'⟩ := toCoreClaim_spec _ _ _ (bind_sound cred' c h')
  cases nonM with
  | true => exact (hnm tp attr _ ha hp).elim
  | false =>
  cases nonM' with
  | true => exact (hnm' tp' attr' _ ha' hp').elim
  | false =>
  obtain ⟨_, _, _, _, m4, _, m6, _⟩ := m
  obtain ⟨_, _, _, _, m4', _, m6', _⟩ := m'
  simp only [expected] at m4 m6 m4' m6'
  -- both read the position from the same claim
  rcases mrkOf_merklized (optsOfClaim c) with hk | hk
  · exact (m4.trans (if_pos hk)).symm.trans (m4'.trans (if_pos hk))
  · exact (m6.trans (if_pos hk)).symm.trans (m6'.trans (if_pos hk))

theorem stageFlags_congr (o o' : Opts) (c : CredIn) (cl : Claim) (h : o'.updatable = o.updatable) :
    stageFlags o' c cl = stageFlags o c cl := by
  unfold stageFlags; rw [h]

/-- the flags of an issued claim, in terms of the issuing options (read off the closed form of C05) -/
theorem issued_flags (o : Option Opts) (cred : CredIn) (c : Claim) (tp attr : String) (ia ib va vb : Nat) (nonM : Bool)
    (hm : Meets c (expected (o.getD defaultOpts) cred tp ia ib va vb nonM)) :
    (decode c).subjectFlag = subjOf (o.getD defaultOpts) cred ∧
    ((decode c).updatable = true ↔ (o.getD defaultOpts).updatable = true) ∧
    (decode c).merklizedFlag = mrkOf (o.getD defaultOpts) nonM ∧
    (decode c).version = (o.getD defaultOpts).version % 2 ^ 32 ∧
    (decode c).revNonce = (o.getD defaultOpts).revNonce % 2 ^ 64 := by
  generalize o.getD defaultOpts = opts at *
  simp only [expected] at hm
  cases slots_iff.2 hm
  rw [decode_closed ⟨subj_lt opts cred, exp_lt cred, upd_lt opts, mrk_lt opts nonM⟩]
  exact ⟨rfl, decide_eq_true_iff.trans (updOf_eq_one opts), rfl, rfl, rfl⟩

/-- **Completeness of the binding check**: a claim produced by `ToCoreClaim` from a credential - with any options
    (nonce and version within their Go types uint64 / uint32), or with none - passes the binding check of that
    credential: the options rebuilt from the claim's own flags re-derive exactly the same claim. -/
theorem issue_then_bind (o : Option Opts) (cred : CredIn) (c : Claim)
    (hn : (o.getD defaultOpts).revNonce < 2 ^ 64) (hv : (o.getD defaultOpts).version < 2 ^ 32)
    (h : toCoreClaim o cred = .ok c) : bindCheck cred c = .ok () := by
  obtain ⟨r⟩ := toCoreClaim_eq_ok.1 h
  obtain ⟨dsub, dupd, dmrk, dver, dnonce⟩ := issued_flags o cred c _ r.attr _ _ _ _ _ (stages_spec r)
  generalize o.getD defaultOpts = opts at *
  rw [Nat.mod_eq_of_lt hv] at dver
  rw [Nat.mod_eq_of_lt hn] at dnonce
  -- the options rebuilt from the claim take the run through the same steps
  have key : toCoreClaim (some (optsOfClaim c)) cred = .ok c := by
    refine toCoreClaim_eq_ok.2 ⟨{ r with hroot := ?_, h0 := ?_, h1 := ?_ }⟩
    · have hrp : (optsOfClaim c).rootPos =
          if mrkOf opts r.nonM = 1 then "index" else if mrkOf opts r.nonM = 2 then "value" else "" := dmrk ▸ rfl
      rcases stageRoot_ok r.hroot r.h2 with ⟨hn, ho, hr, _⟩ | ⟨hn, ho, hr, _⟩ | ⟨hn, ho, hr, _⟩ <;>
        simp [effectiveRootPos, hrp, mrkOf, hn, ho, hr]
    · show newClaim _ _ _ _ _ (decode c).revNonce (decode c).version = _
      rw [dnonce, dver]; exact r.h0
    · have hsp : (optsOfClaim c).subjectPos =
          if subjOf opts cred = 2 then "index" else if subjOf opts cred = 3 then "value" else "" := dsub ▸ rfl
      have hupd : (optsOfClaim c).updatable = opts.updatable := Bool.eq_iff_iff.2 dupd
      rw [Option.getD_some, stageFlags_congr opts _ cred _ hupd]
      rcases stageSubject_ok r.h1 with ⟨hs, hc⟩ | ⟨id, hs, hp, hc⟩ | ⟨id, hs, hp, hc⟩
      · simp [stageSubject, hs, hc]
      · simp [stageSubject, hsp, subjOf, hs, hp, hc]
      · simp [stageSubject, hsp, subjOf, hs, hp, hc]
  unfold bindCheck
  rw [key]
  simp

/-- the dispatcher: a proof type the credential does not carry is "proof not found" -/
theorem proof_selected_by_type (av : List ProofKind) (w : ProofKind) (ok : Bool) (bind : Except String Unit) (run : ProofKind → Outcome)
    (h : av.contains w = false) : dispatch av w ok bind run = .err "proof_not_found" := by
  unfold dispatch; simp only [h, Bool.not_false, if_true]

/-- a proof type the dispatcher does not verify is "proof not supported" -/
theorem unsupported_type (av : List ProofKind) (name : String) (run : ProofKind → Outcome)
    (h : av.contains (.other name) = true) : dispatch av (.other name) true (.ok ()) run = .err "proof_not_supported" := by
  unfold dispatch; simp only [h, Bool.not_true, Bool.false_eq_true, if_false]

/-- the binding check runs before the proof-specific verifier: when it fails, the verifier plays no part -/
theorem bind_checked_first (av : List ProofKind) (w : ProofKind) (e : String) (run run' : ProofKind → Outcome) :
    dispatch av w true (.error e) run = dispatch av w true (.error e) run' := by
  unfold dispatch; simp

theorem selectProof_mem {α : Type} (proofs : List (ProofKind × α)) (wanted : ProofKind) (p : α)
    (h : selectProof proofs wanted = some p) : (wanted, p) ∈ proofs := by
  -- case1: no proof left; case2: the first proof is of the wanted type; case3: it is not, go on
  fun_induction selectProof proofs wanted with
  | case1 => cases h
  | case2 => exact Option.some.inj h ▸ List.mem_cons_self
  | case3 _ _ _ _ ih => exact List.mem_cons_of_mem _ (ih h)

/-- **the claim compared is the claim proven**: a credential with any list of proofs is accepted only if *one and the same*
    proof of the requested type both carries a claim the credential is bound to and verifies over that claim - never the
    binding of one proof combined with the validity of another -/
theorem list_accepted_one_proof_bound_and_valid {α : Type} (proofs : List (ProofKind × α)) (wanted : ProofKind)
    (claimOk : α → Bool) (bind : α → Except String Unit) (run : α → Outcome)
    (h : verifyList proofs wanted claimOk bind run = .ok) :
    ∃ p, (wanted, p) ∈ proofs ∧ claimOk p = true ∧ bind p = .ok () ∧ run p = .ok := by
  revert h
  -- the last case (a proof selected, claim ok, bound, a type the dispatcher verifies) is the only one that is not an `.err`
  fun_cases verifyList proofs wanted claimOk bind run with
  | case5 _ _ hsel hc hb => exact fun h => ⟨_, selectProof_mem _ _ _ hsel, by simpa using hc, hb, h⟩
  | _ => intro h; cases h

/-- proofs of other types in front, and anything behind, play no part -/
theorem list_only_first_of_type {α : Type} (pre rest : List (ProofKind × α)) (wanted : ProofKind) (p : α)
    (claimOk : α → Bool) (bind : α → Except String Unit) (run : α → Outcome)
    (hpre : ∀ kq ∈ pre, kq.1 ≠ wanted) :
    verifyList (pre ++ (wanted, p) :: rest) wanted claimOk bind run = verifyList [(wanted, p)] wanted claimOk bind run := by
  have hs : selectProof (pre ++ (wanted, p) :: rest) wanted = some p := by
    induction pre with
    | nil => simp [selectProof]
    | cons kq l ih =>
      simp only [List.cons_append, selectProof, if_neg (hpre kq List.mem_cons_self)]
      exact ih fun x hx => hpre x (List.mem_cons_of_mem _ hx)
  unfold verifyList
  rw [hs]
  simp [selectProof]

/-- the shape a forger needs does not help: a first proof that is bound but does not verify, followed by a proof that
    verifies but is bound to another credential, is rejected - in either order -/
example : verifyList [(.bjj, (true, false)), (.bjj, (false, true))] .bjj (fun _ => true)
      (fun p => if p.1 then .ok () else .error "proof generated for another credential") (fun p => if p.2 then .ok else .err "signature") ≠ .ok ∧
    verifyList [(.bjj, (false, true)), (.bjj, (true, false))] .bjj (fun _ => true)
      (fun p => if p.1 then .ok () else .error "proof generated for another credential") (fun p => if p.2 then .ok else .err "signature") ≠ .ok := by
  decide

section ClaimHex
open Gsp.Hex

/-- two claims with one spelling are one claim (verifyCredentialCoreClaim compares the two claims by their hexadecimal spellings) -/
theorem claim_hex_inj (q : Nat) (a b : List Nat) (ha8 : a.length = 8) (hb8 : b.length = 8)
    (ha : ∀ s ∈ a, s < q) (hb : ∀ s ∈ b, s < q) (hq256 : q ≤ 2 ^ 256) (h : claimToHex a = claimToHex b) : a = b :=
  Except.ok.inj ((Gsp.Props.C14.claim_hex_roundtrip q a ha8 ha hq256).symm.trans
    (h ▸ Gsp.Props.C14.claim_hex_roundtrip q b hb8 hb hq256))

end ClaimHex

/-- the proof types by name, through the table the source's switch is compared with: the two the dispatcher verifies, every other
    name is a type it does not support -/
theorem kindOfName_spec (n : String) :
    kindOfName n = if n = "BJJSignature2021" then .bjj else if n = "Iden3SparseMerkleTreeProof" then .smt else .other n := by
  unfold kindOfName proofTypeTable
  by_cases h1 : n = "BJJSignature2021"
  · simp [h1]
  by_cases h2 : n = "Iden3SparseMerkleTreeProof"
  · simp [h2]
  · simp [List.find?, h1, h2, beq_false_of_ne (Ne.symm h1), beq_false_of_ne (Ne.symm h2)]

end Gsp.Props.C06
