import Gsp.Model.Mz
import Gsp.Lemmas.HashCRWitness
import Gsp.Lemmas.SmtPerm
import Gsp.Lemmas.RdfPerm
/-! C03 — the root is a canonical function of the document's meaning.
    Proved here: insertion-order independence of the tree itself (`insertion_order_irrelevant`, via the canonical
    tree `build` of Gsp.Lemmas.SmtPerm), content independence, root binding and single-field sensitivity under the
    idealised-hash hypothesis. Invariance under re-presentation of the *document* (json-gold's expansion and
    URDNA2015) is covered by the metamorphic correspondence. -/
namespace Gsp.Props.C03
open Gsp.Smt

/-- **Insertion order does not influence the content of the tree** (Go's map iteration order, the order in
    which a restored merklizer re-inserts its entries, shuffled arrays): two successful bulk insertions of
    permuted lists give trees that map every key to the same value. -/
theorem content_perm_indep (l₁ l₂ : List (Nat × Nat)) (t₁ t₂ : T) (hp : l₁.Perm l₂)
    (h₁ : addAll l₁ .empty = .ok t₁) (h₂ : addAll l₂ .empty = .ok t₂) :
    ∀ q, lookup q t₁ 0 = lookup q t₂ 0 := by
  rw [addAll_perm l₁ l₂ t₁ t₂ hp h₁ h₂]
  exact fun _ => rfl

/-- **The tree — hence the root, for any node hash — is independent of insertion order**: Go's map iteration
    order when entries are inserted or re-inserted on restore, shuffled arrays and object keys only ever permute
    the list of (key, value) pairs. -/
theorem insertion_order_irrelevant (P : List Nat → Nat) (l₁ l₂ : List (Nat × Nat)) (t₁ t₂ : T) (hp : l₁.Perm l₂)
    (h₁ : addAll l₁ .empty = .ok t₁) (h₂ : addAll l₂ .empty = .ok t₂) : T.hash P t₁ = T.hash P t₂ := by
  rw [addAll_perm l₁ l₂ t₁ t₂ hp h₁ h₂]

/-- a caller-provided empty tree is the default tree -/
theorem empty_tree_param (canon : String → Option String) (h : Hasher) (ds : Rdf.Dataset) :
    Mz.merklize canon h ds .empty = Mz.merklize canon h ds := rfl

/-- **Repeated merklization gives the same entries**: Go hands out the graphs of `ds.Graphs` in an unspecified
    order that may differ from run to run; in the model that order is the order of the dataset list. Entries (and
    their order, and the error class on failure) are the same for every such order — graph names being distinct, as
    the keys of a map are. -/
theorem entries_map_order_irrelevant (canon : String → Option String) (p : Nat) (ds ds' : Rdf.Dataset)
    (hp : ds.Perm ds') (hnd : (Rdf.names ds).Nodup) : Rdf.entries canon p ds = Rdf.entries canon p ds' :=
  Rdf.entries_perm hp hnd

/-- … and therefore the same merklizer: same (key, value) pairs, same tree, same root -/
theorem merklize_map_order_irrelevant (canon : String → Option String) (h : Hasher) (ds ds' : Rdf.Dataset) (t₀ : T)
    (hp : ds.Perm ds') (hnd : (Rdf.names ds).Nodup) : Mz.merklize canon h ds t₀ = Mz.merklize canon h ds' t₀ := by
  unfold Mz.merklize
  rw [Rdf.entries_perm hp hnd]

/-- **Root binding**: under the idealised-hash hypothesis equal roots mean equal trees — the root determines
    every leaf's key, value and position. -/
theorem root_binds_tree (P : List Nat → Nat) (hcr : HashCR P) (t t' : T) (h : T.hash P t = T.hash P t') : t = t' :=
  root_binding P hcr t t' h

/-- **Sensitivity**: replacing the value of a single field by one whose encoding differs changes the root. -/
theorem value_change_changes_root (P : List Nat → Nat) (hcr : HashCR P) (t t' : T) (k v v' : Nat)
    (h1 : lookup k t 0 = some v) (h2 : lookup k t' 0 = some v') (hne : v ≠ v') :
    T.hash P t ≠ T.hash P t' :=
  fun h => hne (Option.some.inj ((root_binding P hcr t t' h ▸ h1).symm.trans h2))

/-- a removed or added field changes the root as well -/
theorem presence_change_changes_root (P : List Nat → Nat) (hcr : HashCR P) (t t' : T) (k v : Nat)
    (h1 : lookup k t 0 = some v) (h2 : lookup k t' 0 = none) :
    T.hash P t ≠ T.hash P t' :=
  fun h => nomatch (root_binding P hcr t t' h ▸ h1).symm.trans h2

/-- non-vacuity: the idealised-hash hypothesis used above is satisfiable (an explicit injective, never-zero function) -/
theorem idealised_hash_exists : ∃ P : List Nat → Nat, Gsp.Smt.HashCR P := ⟨_, Gsp.Smt.hashCR_satisfiable⟩

end Gsp.Props.C03
