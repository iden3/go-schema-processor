import Gsp.Props.C09
/-! C08 — sparse-Merkle-tree issuance proof verification is sound and complete. -/
namespace Gsp.Props.C08
open Gsp.Smt Gsp.Verify Gsp.Props.C09

theorem stateConsistent_ok (H3 : Nat → Nat → Nat → Nat) (d : IssuerData) :
    stateConsistent H3 d = .ok () ↔ TreeStateOk H3 d.state := by
  rw [← validateTreeState_true]
  fun_cases stateConsistent H3 d <;> simp [*]

theorem publishedOrGenesis_ok (r : Resolved) (g : Except String Bool) :
    publishedOrGenesis r g = .ok () ↔ r = .published (some true) ∨ (∃ p, r = .published p ∧ p ≠ some true ∧ g = .ok true) := by
  fun_cases publishedOrGenesis r g <;> simp [*]

theorem included_ok (P : List Nat → Nat) (d : IssuerData) (mtp : Option Proof) (hi hv : Nat) :
    includedInClaimsTree P d mtp hi hv = .ok () ↔
      ∃ p ctr, mtp = some p ∧ p.existence = true ∧ d.state.claimsRoot = .val ctr ∧ rootFromProof P p hi hv = some ctr := by
  constructor
  · -- case5 is the only one that returns .ok
    fun_cases includedInClaimsTree P d mtp hi hv with
    | case5 p hex ctr hc hr => exact fun _ => ⟨p, ctr, rfl, by simpa using hex, hc, hr⟩
    | _ => intro h; cases h
  · rintro ⟨p, ctr, rfl, hex, hc, hr⟩
    simp [includedInClaimsTree, hex, hc, hr]

/-- **Soundness**: verification succeeds only if the Merkle proof is an existence proof that carries the
    claim's (index hash, value hash) to the claims-tree root given in the proof, that root together with the
    revocation and roots-of-roots roots hashes to the issuer state named in the proof, and that state is
    reported published or is the genesis state of the issuer's DID. -/
theorem smtp_sound (P : List Nat → Nat) (H3 : Nat → Nat → Nat → Nat) (b : SmtBundle) (h : smtProof P H3 b = .ok) :
    b.issuer.didOk = true ∧ TreeStateOk H3 b.issuer.state ∧
    (b.resolved = .published (some true) ∨ b.genesis = .ok true) ∧
    ∃ p ctr, b.mtp = some p ∧ p.existence = true ∧ b.issuer.state.claimsRoot = .val ctr ∧ rootFromProof P p b.hi b.hv = some ctr := by
  obtain ⟨_, hd, hs, hp, hi⟩ := smtProof_verdict (.inl rfl) h
  exact ⟨hd, (stateConsistent_ok H3 b.issuer).mp hs, ((publishedOrGenesis_ok b.resolved b.genesis).mp hp).imp_right fun ⟨_, _, _, h⟩ => h,
    (included_ok P b.issuer b.mtp b.hi b.hv).mp hi⟩

/-- … and therefore, under the idealised-hash hypothesis, the claim really is a leaf of every tree that has
    that claims-tree root -/
theorem smtp_claim_in_tree (P : List Nat → Nat) (hcr : HashCR P) (H3 : Nat → Nat → Nat → Nat) (b : SmtBundle) (t : T)
    (h : smtProof P H3 b = .ok) (hroot : b.issuer.state.claimsRoot = .val (T.hash P t)) :
    lookup b.hi t 0 = some b.hv := by
  obtain ⟨_, _, _, p, ctr, _, hex, hctr, hr⟩ := smtp_sound P H3 b h
  cases hroot.symm.trans hctr
  simpa [hex] using verify_sound P hcr t p b.hi b.hv hr

/-- **Completeness**: a claim inserted in the issuer's claims tree verifies with the proof generated from that
    tree, given a consistent state that is published (or genesis) -/
theorem smtp_complete (P : List Nat → Nat) (H3 : Nat → Nat → Nat → Nat) (t : T) (hi hv : Nat) (p : Proof)
    (state : TreeState) (resolved : Resolved) (genesis : Except String Bool)
    (hgen : genProof P hi t 0 maxLevels [] = .ok p) (hin : lookup hi t 0 = some hv)
    (hctr : state.claimsRoot = .val (T.hash P t)) (hts : TreeStateOk H3 state)
    (hpub : resolved = .published (some true) ∨ (∃ q, resolved = .published q ∧ q ≠ some true ∧ genesis = .ok true)) :
    smtProof P H3 ⟨⟨true, state⟩, some p, hi, hv, resolved, genesis⟩ = .ok := by
  obtain ⟨he, hr⟩ := genProof_member P hgen hin
  exact smtProof_of_checks rfl ((stateConsistent_ok H3 _).mpr hts) ((publishedOrGenesis_ok resolved genesis).mpr hpub)
    ((included_ok P _ _ hi hv).mpr ⟨p, _, rfl, he, hctr, hr⟩)

/-- **a failed resolution is no answer**: when the DID resolver reports an error - whatever document came with it - or
    answers without state information, nothing is accepted, not even a proof naming the genesis state -/
theorem smt_resolver_failure_rejected (P : List Nat → Nat) (H3 : Nat → Nat → Nat → Nat) (b : SmtBundle)
    (hr : b.resolved = .error ∨ b.resolved = .noStateInfo) : smtProof P H3 b ≠ .ok := by
  intro h
  have hp := (smtProof_verdict (.inl rfl) h).2.2.2.1
  rcases hr with e | e <;> rw [e] at hp <;> cases hp

/-- a bundle lacking any optional member is an error, never a crash (C12) -/
theorem smtp_missing_members (P : List Nat → Nat) (H3 : Nat → Nat → Nat → Nat) (b : SmtBundle)
    (h : b.mtp = none ∨ b.issuer.state.state = .absent ∨ b.issuer.state.claimsRoot = .absent ∨ b.resolved = .noStateInfo) :
    ∃ e, smtProof P H3 b = .err e := by
  cases hres : smtProof P H3 b with
  | err e => exact ⟨e, rfl⟩
  | revoked => exact nomatch (smtProof_verdict (.inr rfl) hres).1
  | ok =>
    obtain ⟨_, ⟨s, _, _, _, hs, _⟩, _, p, ctr, hm, _, hc, _⟩ := smtp_sound P H3 b hres
    rcases h with h | h | h | h
    · rw [h] at hm; cases hm
    · rw [h] at hs; cases hs
    · rw [h] at hc; cases hc
    · exact (smt_resolver_failure_rejected P H3 b (.inr h) hres).elim

section StateEntry
open Gsp.Resolve

/-- the entry consulted is the first verification method of exactly the type `Iden3StateInfo2023`, and its `published`
    member is what the verifier is told -/
theorem state_entry_is_first_of_its_type (vms : List VM) (v : VM) (h : stateInfo vms = some v) :
    resolvedOf (.ok vms) = .published v.published ∧
      ∃ pre post, vms = pre ++ v :: post ∧ v.tp = stateInfoType ∧ ∀ w ∈ pre, w.tp ≠ stateInfoType := by
  refine ⟨by simp [resolvedOf, h], stateInfo_eq_some h⟩

/-- verification methods of other types — before, between or after — have no say in whether the state counts as published -/
theorem other_methods_irrelevant (vms : List VM) :
    resolvedOf (.ok (vms.filter fun v => v.tp = stateInfoType)) = resolvedOf (.ok vms) := by
  simp [resolvedOf, stateInfo_eq_find?]

theorem trailing_methods_irrelevant (a b : List VM) (hb : ∀ w ∈ b, w.tp ≠ stateInfoType) :
    resolvedOf (.ok (a ++ b)) = resolvedOf (.ok a) := by
  simp [resolvedOf, stateInfo_append, stateInfo_eq_none hb]

/-- a later state entry does not override the first one -/
theorem later_state_entries_irrelevant (a b : List VM) (v : VM) (h : stateInfo a = some v) :
    resolvedOf (.ok (a ++ b)) = resolvedOf (.ok a) := by
  simp [resolvedOf, stateInfo_append, h]

theorem no_state_entry_rejected (P : List Nat → Nat) (H3 : Nat → Nat → Nat → Nat) (b : SmtBundle) (vms : List VM)
    (hno : ∀ w ∈ vms, w.tp ≠ stateInfoType) (hr : b.resolved = resolvedOf (.ok vms)) : smtProof P H3 b ≠ .ok :=
  smt_resolver_failure_rejected P H3 b (.inr (by rw [hr, resolvedOf, stateInfo_eq_none hno]))

/-- the verdict on a bundle is the same for the resolver's document and for that document stripped of everything but
    its state entries -/
theorem smtp_verdict_ignores_other_methods (P : List Nat → Nat) (H3 : Nat → Nat → Nat → Nat) (b : SmtBundle) (vms : List VM) :
    smtProof P H3 { b with resolved := resolvedOf (.ok (vms.filter fun v => v.tp = stateInfoType)) } =
      smtProof P H3 { b with resolved := resolvedOf (.ok vms) } := by
  rw [other_methods_irrelevant]

example : resolvedOf (.ok [⟨"EcdsaSecp256k1RecoveryMethod2020", some true⟩, ⟨"Iden3StateInfo2023", some false⟩,
    ⟨"EcdsaSecp256k1RecoveryMethod2020", some true⟩, ⟨"Iden3StateInfo2023", some true⟩]) = .published (some false) := by decide
end StateEntry

end Gsp.Props.C08
