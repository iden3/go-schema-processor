import Gsp.Lemmas.CtxAgree
import Gsp.Lemmas.Assoc
/-! Safe mode seen from the contexts: on a document none of whose properties is dropped by expansion, the specification
    `storedKey` gives a key for every path that addresses something in it.
    (`CtxAgree` is imported only so that the auxiliary lemmas Lean derives for the matchers of `Model/Ctx` exist once:
    derived separately in two modules, they clash as soon as both modules are imported together.) -/
namespace Gsp.Ctx

theorem sumN_eq_zero {l : List Nat} (h : sumN l = 0) : ∀ x ∈ l, x = 0 := by
  induction l with
  | nil => nofun
  | cons y ys ih =>
    obtain ⟨hy, hys⟩ := Nat.add_eq_zero_iff.1 h
    exact fun x hx => (List.mem_cons.1 hx).elim (· ▸ hy) (ih hys x)

/-- **nothing undefined in a node**: its type-scoped contexts load, each of its properties is a term of the context
    then in force, with a scoped context that loads, and nothing is undefined in any member -/
theorem undefinedProps_eq_zero {s : Schema} {fuel : Nat} {base : Active} {node : Node}
    (h : undefinedProps s (fuel+1) base (some node) = 0) {p : String} {ms : List (Option Node)}
    (hp : node.props.lookup p = some ms) :
    ∃ a1 td base', applyTypes s base base (sortS node.types) = some a1 ∧ lookupTerm a1 p = some td ∧
      applyCtx s base td.sub = some base' ∧ ∀ m ∈ ms, undefinedProps s fuel base' m = 0 := by
  rw [undefinedProps] at h
  split at h     -- the type-scoped contexts of the node
  · cases h
  next a1 h1 =>
    have hz := sumN_eq_zero h _ (List.mem_map_of_mem (Assoc.mem_of_lookup hp))
    split at hz     -- the term `p`
    · cases hz
    next td h2 =>
      split at hz     -- its scoped context
      · cases hz
      next base' h3 => exact ⟨a1, td, base', h1, h2, h3, fun m hm => sumN_eq_zero hz _ (List.mem_map_of_mem hm)⟩

/-- **Every path of a fully defined document has a key under the specification `storedKey`.** -/
theorem defined_paths_stored (s : Schema) : ∀ (fuel : Nat) (base : Active) (cur : Option Node) (π : List String),
    undefinedProps s fuel base cur = 0 → present fuel cur π = true → ∃ q, storedKey s fuel base cur π = .ok q := by
  intro fuel base cur π
  fun_induction present fuel cur π generalizing base with
  | case2 => exact fun _ _ => ⟨[], rfl⟩
  | case7 fuel p node ms hl idx rest hidx n hn m hm ih =>     -- a term, then a position
    intro hu hp
    obtain ⟨a1, td, base', h1, h2, h3, hall⟩ := undefinedProps_eq_zero hu hl
    obtain ⟨q, hq⟩ := ih base' (hall m (List.mem_of_getElem? hm)) hp
    rw [storedKey.eq_def]
    simp only [h1, h2, h3, hl, hidx, hn, hm, hq, if_true]
    exact ⟨_, rfl⟩
  | case8 fuel p node idx rest hidx m hl ih =>     -- a term with one member, then a term
    intro hu hp
    obtain ⟨a1, td, base', h1, h2, h3, hall⟩ := undefinedProps_eq_zero hu hl
    obtain ⟨q, hq⟩ := ih base' (hall m List.mem_cons_self) hp
    rw [storedKey.eq_def]
    simp only [h1, h2, h3, hl, hidx, hq]
    exact ⟨_, rfl⟩
  | case10 fuel p node ms hl =>     -- the last term
    intro hu _
    obtain ⟨a1, td, base', h1, h2, h3, _⟩ := undefinedProps_eq_zero hu hl
    rw [storedKey.eq_def]
    simp only [h1, h2, h3, hl]
    exact ⟨_, rfl⟩
  | _ => intro _ h; cases h     -- otherwise the path addresses nothing

end Gsp.Ctx
