import Gsp.Model.Ctx
import Gsp.Lemmas.Except
/-! Agreement of the three path resolvers on documents whose nodes carry no types (all scoping is by property): the
    class on which known finding D8 (type-scoped contexts leaking into nested nodes) cannot occur. The context-side
    resolver `pathFromContext` is the common reference: on such a document the walk through the document
    (`pathFromDocument_ok_ctx`) and the specification of expansion (`storedKey_ok_ctx`) can only succeed with the path
    that the context alone gives, so any two of the three agree whenever both give a path. -/
namespace Gsp.Ctx

/-- no node within `n` levels carries a type -/
def UntypedN : Nat → Option Node → Prop
  | 0, _ => True
  | _+1, none => True
  | n+1, some node => node.types = [] ∧ ∀ p ms, node.props.lookup p = some ms → ∀ m ∈ ms, UntypedN n m

theorem untyped_le (n k : Nat) (x : Option Node) (h : UntypedN (n + k) x) : UntypedN n x := by
  induction n generalizing x with
  | zero => trivial
  | succ n ih =>
    cases x with
    | none => trivial
    | some node =>
      rw [Nat.add_right_comm] at h
      exact ⟨h.1, fun p ms hp m hm => ih m (h.2 p ms hp m hm)⟩

/-- a JSON value none of whose nodes (within `n` levels) carries a type -/
def UntypedV (n : Nat) : Val → Prop
  | .single x => UntypedN n x
  | .arr ms => ∀ m ∈ ms, UntypedN n m

theorem untypedV_valOf {n : Nat} {ms : List (Option Node)} (h : ∀ m ∈ ms, UntypedN n m) : UntypedV n (valOf ms) := by
  unfold valOf
  split
  · exact h _ List.mem_cons_self
  · exact h

/-- an untyped node resolves its terms in the context it was entered with -/
theorem applyTypes_untyped {s : Schema} {l a a1 : Active} {node : Node} (hty : node.types = [])
    (h : applyTypes s l a (sortS node.types) = some a1) : a1 = a := by
  rw [hty] at h; exact (Option.some.inj h).symm

/-- term names are never numeric (a numeric path segment is always a position) -/
def NoNum (l : List TermDef) : Prop := ∀ td ∈ l, isNumeric td.name = false
def SchemaNoNum (s : Schema) : Prop := ∀ c tds, termsOf s c = some tds → NoNum tds

theorem lookupTerm_name {a : Active} {p : String} {td : TermDef} (h : lookupTerm a p = some td) : td ∈ a ∧ td.name = p :=
  ⟨List.mem_of_find?_eq_some h, of_decide_eq_true (List.find?_some (p := fun t : TermDef => decide (t.name = p)) h)⟩

theorem noNum_lookup {a : Active} {p : String} {td : TermDef} (hn : NoNum a) (h : lookupTerm a p = some td) :
    isNumeric p = false :=
  (lookupTerm_name h).2 ▸ hn td (lookupTerm_name h).1

theorem noNum_applyCtx {s : Schema} {a a' : Active} {c : Option CtxId} (hs : SchemaNoNum s) (hn : NoNum a)
    (h : applyCtx s a c = some a') : NoNum a' := by
  cases c with
  | none => cases h; exact hn
  | some id =>
    obtain ⟨tds, ht, rfl⟩ := Option.map_eq_some_iff.1 h
    exact fun td hm => (List.mem_append.1 hm).elim (hs id tds ht td) (hn td)

theorem pathFromContext_index {s : Schema} {a : Active} {p : String} {n : Nat} {rest : List String}
    (hn : isNumeric p = true) (hp : p.toNat? = some n) :
    pathFromContext s a (p :: rest) = (pathFromContext s a rest).map (.i n :: ·) := by
  simp only [pathFromContext, hn, hp, if_true]

theorem pathFromContext_term {s : Schema} {a a' : Active} {p : String} {td : TermDef} {rest : List String}
    (hn : isNumeric p = false) (hl : lookupTerm a p = some td) (hc : applyCtx s a td.sub = some a') :
    pathFromContext s a (p :: rest) = (pathFromContext s a' rest).map (.s td.iri :: ·) := by
  simp only [pathFromContext, hn, hl, hc, Bool.false_eq_true, if_false]

/-- **the walk through an untyped document can only give the path the context alone gives**: every step of
    `pathFromDocument` that does not fail is the step `pathFromContext` takes - a position is copied, a term is
    looked up in the same active context (no type adds to it) and continues under the same scoped context -/
theorem pathFromDocument_ok_ctx {s : Schema} {f : Nat} {π : List String} {a : Active} {v : Val} {acc : Bool}
    (hut : UntypedV π.length v) : ∀ q, pathFromDocument s f a v acc π = .ok q → pathFromContext s a π = .ok q := by
  fun_induction pathFromDocument s f a v acc π with
  | case2 => exact fun _ h => h
  | case5 f a acc p rest hp n hn ms m hm ih =>     -- a position in an array
    rw [pathFromContext_index hp hn]
    exact Except.ok_map _ (ih (untyped_le _ 1 _ (hut m (List.mem_of_getElem? hm))))
  | case7 f a acc p rest hp n hn m _ ih =>         -- position 0 of a single value
    rw [pathFromContext_index hp hn]
    exact Except.ok_map _ (ih (untyped_le _ 1 _ hut))
  | case10 f a acc p rest _ m tl _ ih =>           -- a term met on an array: the same path in element 0
    exact ih (hut m List.mem_cons_self)
  | case15 f a acc p rest hp node a1 h1 td hl a2 hc _ hr =>     -- the last term, not a member of the node
    cases applyTypes_untyped hut.1 h1
    cases List.isEmpty_iff.1 hr
    rw [pathFromContext_term (Bool.eq_false_iff.2 hp) hl hc]
    exact fun _ h => h
  | case17 f a acc p rest hp node a1 h1 td hl a2 hc ms hms ih =>     -- a term that names a member
    cases applyTypes_untyped hut.1 h1
    rw [pathFromContext_term (Bool.eq_false_iff.2 hp) hl hc]
    exact Except.ok_map _ (ih (untypedV_valOf (hut.2 p ms hms)))
  | _ => intro _ h; cases h     -- every other branch ends in an error

/-- **on an untyped document the specification `storedKey` can only give the path the context alone gives**, provided
    no term name is numeric (`storedKey` looks a segment up as a term wherever a term may stand; `pathFromContext` reads
    every numeric segment as a position) -/
theorem storedKey_ok_ctx {s : Schema} (hs : SchemaNoNum s) {f : Nat} {π : List String} {a : Active} {cur : Option Node}
    (hnn : NoNum a) (hut : UntypedN π.length cur) : ∀ q, storedKey s f a cur π = .ok q → pathFromContext s a π = .ok q := by
  fun_induction storedKey s f a cur π with
  | case2 => exact fun _ h => h
  | case10 f a p node a1 h1 td hl a' hc ms hms idx rest hidx n hn m hm ih =>     -- a term, then a position
    intro q h
    cases applyTypes_untyped hut.1 h1
    rw [pathFromContext_term (noNum_lookup hnn hl) hl hc, pathFromContext_index hidx hn]
    -- two maps on the right-hand side, one on the left: `Except.ok_map` does not fit, so by cases on the run below
    cases hr : storedKey s f a' m rest with
    | error _ => rw [hr] at h; cases h
    | ok r =>
      rw [ih (noNum_applyCtx hs hnn hc) (untyped_le _ 1 _ (hut.2 p ms hms m (List.mem_of_getElem? hm))) r hr]
      rwa [hr] at h
  | case11 f a p node a1 h1 td hl a' hc idx rest _ m hms ih =>     -- a term with one member, then a term
    cases applyTypes_untyped hut.1 h1
    rw [pathFromContext_term (noNum_lookup hnn hl) hl hc]
    exact Except.ok_map _ (ih (noNum_applyCtx hs hnn hc) (hut.2 p [m] hms m List.mem_cons_self))
  | case13 f a p node a1 h1 td hl a' hc =>     -- the last term
    cases applyTypes_untyped hut.1 h1
    rw [pathFromContext_term (noNum_lookup hnn hl) hl hc]
    exact fun _ h => h
  | _ => intro _ h; cases h     -- every other branch ends in an error

end Gsp.Ctx
