import Gsp.Model.Hex
import Gsp.Lemmas.Pack
/-! hexadecimal spellings: digits, byte strings, little-endian slots -/
namespace Gsp.Hex

/-! `digit?`, `digitChar` and the case maps are ASCII tables: what holds of them is checked on ASCII by evaluation; above it
    there is no digit and no letter. -/

theorem digit_digitChar {n : Nat} (h : n < 16) : digit? (digitChar n) = some n := by
  revert n; decide

/-- the case of a letter does not change its value; a digit's value is below 16, and `EncodeToString` writes that value as the
    digit in lower case -/
theorem ascii_digits : ∀ c < 128, digit? (upperChar c) = digit? c ∧ digit? (lowerChar c) = digit? c ∧
    ∀ x ∈ digit? c, x < 16 ∧ digitChar x = lowerChar c := by decide +kernel

theorem not_ascii {c : Nat} (h : 128 ≤ c) : digit? c = none ∧ upperChar c = c ∧ lowerChar c = c := by
  unfold digit? upperChar lowerChar
  rw [if_neg (by omega), if_neg (by omega), if_neg (by omega), if_neg (by omega), if_neg (by omega)]
  exact ⟨rfl, rfl, rfl⟩

theorem digit_upper (c : Nat) : digit? (upperChar c) = digit? c :=
  (Nat.lt_or_ge c 128).elim (fun h => (ascii_digits c h).1) fun h => by rw [(not_ascii h).2.1]

theorem digit_lower (c : Nat) : digit? (lowerChar c) = digit? c :=
  (Nat.lt_or_ge c 128).elim (fun h => (ascii_digits c h).2.1) fun h => by rw [(not_ascii h).2.2]

theorem digit_spec {c x : Nat} (h : digit? c = some x) : x < 16 ∧ digitChar x = lowerChar c := by
  rcases Nat.lt_or_ge c 128 with hc | hc
  · exact (ascii_digits c hc).2.2 x h
  · rw [(not_ascii hc).1] at h; cases h

theorem decode_encode (bs : List Nat) (h : ∀ b ∈ bs, b < 256) : decode (encode bs) = some bs := by
  induction bs with
  | nil => rfl
  | cons b bs ih =>
    have hb := h b (by simp)
    simp only [encode, decode]
    rw [digit_digitChar (Nat.div_lt_of_lt_mul hb), digit_digitChar (Nat.mod_lt _ (by decide)),
      ih (fun x hx => h x (List.mem_cons_of_mem _ hx))]
    simp only [Nat.div_add_mod']

theorem decode_map_of_digit (f : Nat → Nat) (hf : ∀ c, digit? (f c) = digit? c) :
    ∀ s : List Nat, decode (s.map f) = decode s
  | [] => rfl
  | [_] => rfl
  | a :: b :: rest => by
    simp only [List.map, decode, hf, decode_map_of_digit f hf rest]

theorem decode_upper (s : List Nat) : decode (s.map upperChar) = decode s := decode_map_of_digit _ digit_upper s
theorem decode_lower (s : List Nat) : decode (s.map lowerChar) = decode s := decode_map_of_digit _ digit_lower s

theorem decode_spec (s bs : List Nat) (h : decode s = some bs) :
    s.length = 2 * bs.length ∧ (∀ b ∈ bs, b < 256) ∧ encode bs = s.map lowerChar := by
  -- case1: the empty string; case3: two digits and a rest that decodes; every other case is `none`
  fun_induction decode s generalizing bs with
  | case1 => cases h; exact ⟨rfl, nofun, rfl⟩
  | case3 a b rest x y bs' hr hy hx ih =>
    cases h
    obtain ⟨hl, hlt, he⟩ := ih bs' hr
    obtain ⟨hx16, hxc⟩ := digit_spec hx
    obtain ⟨hy16, hyc⟩ := digit_spec hy
    refine ⟨by simp only [List.length_cons, hl]; omega, List.forall_mem_cons.2 ⟨by omega, hlt⟩, ?_⟩
    simp only [encode, List.map]
    rw [Nat.mul_comm, Nat.mul_add_div (by decide), Nat.div_eq_of_lt hy16, Nat.add_zero, Nat.mul_add_mod, Nat.mod_eq_of_lt hy16, hxc, hyc, he]
  | _ => cases h

theorem leBytes_length : ∀ (len n : Nat), (leBytes len n).length = len
  | 0, _ => rfl
  | len+1, n => by simp [leBytes, leBytes_length len]

theorem leBytes_lt : ∀ (len n : Nat), ∀ b ∈ leBytes len n, b < 256
  | 0, _ => by simp [leBytes]
  | len+1, n => by
    intro b hb
    simp only [leBytes, List.mem_cons] at hb
    rcases hb with h | h
    · subst h; exact Nat.mod_lt _ (by decide)
    · exact leBytes_lt len _ b h

theorem leNat_leBytes : ∀ (len n : Nat), n < 256 ^ len → leNat (leBytes len n) = n
  | 0, n, h => by simp at h; subst h; rfl
  | len+1, n, h => by
    simp only [leBytes, leNat]
    rw [leNat_leBytes len (n / 256) (by rw [Nat.pow_succ] at h; exact Nat.div_lt_of_lt_mul (by rw [Nat.mul_comm]; exact h)),
      Nat.mod_add_div]

theorem leBytes_leNat : ∀ (bs : List Nat), (∀ b ∈ bs, b < 256) → leBytes bs.length (leNat bs) = bs
  | [], _ => rfl
  | b :: bs, h => by
    have hb := h b (by simp)
    simp only [List.length_cons, leBytes, leNat]
    rw [pack_mod _ hb, pack_div _ hb, leBytes_leNat bs (fun x hx => h x (List.mem_cons_of_mem _ hx))]

theorem chunks32_flatMap : ∀ (slots : List Nat), chunks32 slots.length (slots.flatMap (leBytes 32)) = slots.map (leBytes 32)
  | [] => rfl
  | s :: slots => by
    simp only [List.length_cons, chunks32, List.flatMap_cons, List.map]
    have hl : (leBytes 32 s).length = 32 := leBytes_length 32 s
    rw [List.take_left' hl, List.drop_left' hl, chunks32_flatMap slots]

theorem flatMap_length32 : ∀ (slots : List Nat), (slots.flatMap (leBytes 32)).length = 32 * slots.length
  | [] => rfl
  | s :: slots => by
    simp only [List.flatMap_cons, List.length_append, leBytes_length, flatMap_length32 slots, List.length_cons]
    omega

/-- a byte string of 32·k bytes is its k chunks, each re-spelled from its little-endian number -/
theorem chunks32_rebuild : ∀ (k : Nat) (bs : List Nat), bs.length = 32 * k → (∀ b ∈ bs, b < 256) →
    ((chunks32 k bs).map leNat).flatMap (leBytes 32) = bs
  | 0, bs, h, _ => by
    have : bs = [] := List.eq_nil_of_length_eq_zero (by omega)
    subst this; rfl
  | k+1, bs, h, hlt => by
    simp only [chunks32, List.map, List.flatMap_cons]
    have htl : (bs.take 32).length = 32 := by simp; omega
    have h1 : leBytes 32 (leNat (bs.take 32)) = bs.take 32 := by
      have := leBytes_leNat (bs.take 32) (fun b hb => hlt b (List.mem_of_mem_take hb))
      rwa [htl] at this
    rw [h1, chunks32_rebuild k (bs.drop 32) (by simp; omega) (fun b hb => hlt b (List.mem_of_mem_drop hb))]
    exact List.take_append_drop 32 bs

theorem chunks32_length : ∀ (k : Nat) (bs : List Nat), (chunks32 k bs).length = k
  | 0, _ => rfl
  | k+1, bs => by simp [chunks32, chunks32_length k]

/-- what `claimFromHex` accepts: 256 bytes of hexadecimal whose eight little-endian chunks are field elements -/
theorem claimFromHex_eq_ok {q : Nat} {s slots : List Nat} : claimFromHex q s = .ok slots ↔
    ∃ bs, decode s = some bs ∧ bs.length = 256 ∧ (chunks32 8 bs).map leNat = slots ∧ ∀ x ∈ slots, x < q := by
  unfold claimFromHex
  cases decode s with
  | none => simp
  | some bs =>
    simp only [Option.some.injEq, exists_eq_left', ite_not, List.all_eq_true, decide_eq_true_eq]
    split
    · split
      · exact ⟨fun h => ⟨‹_›, Except.ok.inj h, Except.ok.inj h ▸ ‹_›⟩, fun h => congrArg _ h.2.1⟩
      · exact ⟨nofun, fun h => absurd (h.2.1 ▸ h.2.2) ‹_›⟩
    · exact ⟨nofun, fun h => absurd h.1 ‹_›⟩

end Gsp.Hex
