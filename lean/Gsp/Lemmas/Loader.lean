import Gsp.Model.Loader
/-! What the loader's operations do to the state. A load changes the state only by counting requests (`bump`) and by
    storing what it obtained (`store`); `Evolves` names that, so that a fact about the state after a load is proved for
    those two steps and not again for every branch of `loadHTTP`. Last, `expected_of_not_embedded`: what C20's sequential
    answer is for a URL the embedded documents do not answer. -/
namespace Gsp.Loader

variable {cfg : Cfg} {route : String → Route} {s s' : St} {u : String} {v : Nat} {p : Policy}

theorem mem_cacheSet {c : Cache} {exp : Int} {u' : String} {x : Nat × Int} (h : (u', x) ∈ cacheSet cfg c u v exp) :
    (u', x) ∈ c ∨ (u' = u ∧ x = (v, exp) ∧ cfg.embedded.lookup u = none) := by
  unfold cacheSet at h
  split at h
  · exact .inl h
  · next hemb =>
    rcases List.mem_cons.mp h with e | h
    · cases e; exact .inr ⟨rfl, rfl, Option.not_isSome_iff_eq_none.mp hemb⟩
    · exact .inl (List.mem_filter.mp h).1

theorem cacheHit_cases : cacheHit cfg s u = some v →
    cfg.cacheOn = true ∧ (cfg.embedded.lookup u = some v ∨
      cfg.embedded.lookup u = none ∧ ∃ exp, s.cache.lookup u = some (v, exp) ∧ s.now < exp) := by
  -- `cacheHit`: case1 an entry that is still fresh, case2 a stale one, case3 no entry (or the cache is off)
  fun_cases cacheHit cfg s u with
  | case1 v' exp hg hfresh =>
    intro h; cases h
    split at hg
    · next hc =>
      refine ⟨hc, ?_⟩
      revert hg
      -- `cacheGet`: case1 the embedded document, case2 what the mutable cache holds
      fun_cases cacheGet cfg s u with
      | case1 ve he => intro hg; cases hg; exact .inl he
      | case2 he => intro hg; exact .inr ⟨he, exp, hg, hfresh⟩
    · cases hg
  | _ => intro h; cases h

theorem cacheHit_embedded (hc : cfg.cacheOn = true) (he : cfg.embedded.lookup u = some v) : cacheHit cfg s u = some v := by
  have : s.now < s.now + 3600 := Int.lt_add_of_pos_right _ (by decide)
  simp only [cacheHit, cacheGet, hc, he, if_true, this]

theorem cacheHit_of_cacheOff (hc : cfg.cacheOn = false) : cacheHit cfg s u = none := by
  simp only [cacheHit, hc, Bool.false_eq_true, if_false]

@[simp] theorem store_now : (store cfg s u v p).now = s.now := by unfold store; split <;> rfl
@[simp] theorem store_origin : (store cfg s u v p).origin = s.origin := by unfold store; split <;> rfl
@[simp] theorem store_requests : (store cfg s u v p).requests = s.requests := by unfold store; split <;> rfl

theorem store_of_cacheOff (hc : cfg.cacheOn = false) : store cfg s u v p = s := by simp [store, hc]

theorem mem_store_received {x : String × Nat × Int × Int} (h : x ∈ (store cfg s u v p).received) :
    x ∈ s.received ∨ (x = (u, v, s.now, p.lifetime) ∧ p.storable = true ∧ cfg.cacheOn = true) := by
  unfold store at h
  split at h
  · next hc => exact (List.mem_cons.mp h).symm.imp_right (⟨·, by simpa using hc⟩)
  · exact .inl h

theorem loadIPFSNode_fst (s : St) (k : String) : (loadIPFSNode s k).1 = bump s := by
  unfold loadIPFSNode; dsimp only; split <;> rfl

theorem loadIPFSNode_doc {k : String} (h : (loadIPFSNode s k).2 = .doc v) : ∃ p, s.origin.lookup k = some (.serves v p) := by
  unfold loadIPFSNode at h
  dsimp only at h
  split at h
  · next p ho => cases h; exact ⟨p, ho⟩
  · cases h

/-- what a load may do to the state `s`: count a request, or store a document obtained for a URL that the origin answers
    with a document or with a page that links to one (the origin does not change meanwhile: `frame`) -/
inductive Evolves (cfg : Cfg) (s : St) : St → Prop
  | refl : Evolves cfg s s
  | request {a : St} : Evolves cfg s a → Evolves cfg s (bump a)
  | stored {a : St} (u : String) (v : Nat) (p : Policy) : Evolves cfg s a →
      (s.origin.lookup u = some (.serves v p) ∨ ∃ t, s.origin.lookup u = some (.alt t p)) → Evolves cfg s (store cfg a u v p)

namespace Evolves

theorem frame (h : Evolves cfg s s') : s'.now = s.now ∧ s'.origin = s.origin ∧ s.requests ≤ s'.requests := by
  induction h with
  | refl => exact ⟨rfl, rfl, Nat.le_refl _⟩
  | request _ ih => exact ⟨ih.1, ih.2.1, Nat.le_succ_of_le ih.2.2⟩
  | stored u v p _ _ ih => simpa using ih

theorem trans {a b c : St} (h : Evolves cfg a b) (h' : Evolves cfg b c) : Evolves cfg a c := by
  induction h' with
  | refl => exact h
  | request _ ih => exact ih.request
  | stored u v p _ ho ih => exact ih.stored u v p (h.frame.2.1 ▸ ho)

theorem received (h : Evolves cfg s s') {x : String × Nat × Int × Int} (hx : x ∈ s'.received) :
    x ∈ s.received ∨ ∃ u v p, x = (u, v, s.now, p.lifetime) ∧ p.storable = true ∧ cfg.cacheOn = true ∧
      (s.origin.lookup u = some (.serves v p) ∨ ∃ t, s.origin.lookup u = some (.alt t p)) := by
  induction h with
  | refl => exact .inl hx
  | request _ ih => exact ih hx
  | stored u v p h' ho ih =>
    rcases mem_store_received hx with hx | ⟨e, hs, hc⟩
    · exact ih hx
    · exact .inr ⟨u, v, p, h'.frame.1 ▸ e, hs, hc, ho⟩

theorem cache_of_cacheOff (h : Evolves cfg s s') (hc : cfg.cacheOn = false) : s'.cache = s.cache := by
  induction h with
  | refl => rfl
  | request _ ih => exact ih
  | stored u v p _ _ ih => rw [store_of_cacheOff hc, ih]

/-- the starting state in the shape in which `loadHTTP_evolves` states it (`s` on a fresh entry, `bump s` when the load has to ask),
    so that its induction hypothesis and its instances apply as `ih.of_entry` -/
theorem of_entry {o : Option Nat} (h : Evolves cfg (match o with | some _ => s | none => bump s) s') : Evolves cfg s s' := by
  cases o
  · exact (Evolves.refl.request).trans h
  · exact h

end Evolves

/-- the case analysis of `loadHTTP`, done once for all that concerns the state: the state after a load evolves from the
    state before it, and from `bump` of it when the cache had nothing fresh (cases in the order of the definition's
    branches; 7/8 the IPFS node answers or fails, 9/10 the load of an alternate link's HTTP target does) -/
theorem loadHTTP_evolves (cfg : Cfg) (route : String → Route) (hops : Nat) (s : St) (u : String) :
    Evolves cfg (match cacheHit cfg s u with | some _ => s | none => bump s) (loadHTTP cfg route hops s u).1 := by
  fun_induction loadHTTP cfg route hops s u with
  | case1 hops s u v hit => simp only [hit]; exact .refl
  | case2 hops s u miss | case3 hops s u miss | case5 s u miss | case6 s u miss => simp only [miss]; exact .refl
  | case4 hops s u miss s1 v p ho => simp only [miss]; exact .stored u v p .refl (.inl ho)
  | case7 s u miss s1 t p ho h key hr s2 v hn =>
    simp only [miss]
    obtain rfl : s2 = bump s1 := by rw [← loadIPFSNode_fst s1 key, hn]
    exact .stored u v p (.request .refl) (.inr ⟨t, ho⟩)
  | case8 s u miss s1 t p ho h key hr s2 r hnd hn =>
    simp only [miss]
    obtain rfl : s2 = bump s1 := by rw [← loadIPFSNode_fst s1 key, hn]
    exact .request .refl
  | case9 s u miss s1 t p ho h t' hr s2 v hin ih =>
    simp only [miss]
    rw [hin] at ih
    exact .stored u v p ih.of_entry (.inr ⟨t, ho⟩)
  | case10 s u miss s1 t p ho h t' hr s2 r hnd hin ih =>
    simp only [miss]
    rw [hin] at ih
    exact ih.of_entry

theorem evolves_of_loadHTTP {hops : Nat} {r : Res} (h : loadHTTP cfg route hops s u = (s', r)) : Evolves cfg s s' := by
  have he := (loadHTTP_evolves cfg route hops s u).of_entry
  rwa [h] at he

theorem load_evolves (cfg : Cfg) (route : String → Route) (s : St) (sc : Scheme) (u g : String) :
    Evolves cfg s (load cfg route s sc u g).1 := by
  unfold load
  split
  · exact (loadHTTP_evolves ..).of_entry
  · split
    · rw [loadIPFSNode_fst]; exact .request .refl
    · split
      · exact (loadHTTP_evolves ..).of_entry
      · exact .refl
  · exact .refl

theorem expected_of_not_embedded {org : String → Option (Nat × Policy)}
    (h : (if cfg.cacheOn then cfg.embedded.lookup u else none) = none) :
    expected cfg org u = match org u with | some (v, _) => .doc v | none => .err := by
  unfold expected; rw [h]; rfl

end Gsp.Loader
