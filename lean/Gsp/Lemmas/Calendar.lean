import Gsp.Model.Xsd
/-! Arithmetic of the two calendar functions of `Gsp.Xsd` (`daysFromCivil`, `civilFromDays`: Hinnant's algorithms).

A day of a 400-year era (years counted from March) is written in mixed radix, `36524 c + 1461 q + 365 r + doy`: `c` centuries,
`q` four-year cycles, `r` years, `doy` days. On that form every quotient the two functions take is a linear fact.

Arithmetic goals are closed by `lia`: on quotients by literals it is complete where `omega` gives up, and cheaper to check. It
reasons about every hypothesis in the context, so what a step does not need is `clear`ed first where that matters. -/
namespace Gsp.Xsd

/-- division with remainder, in the form in which the two functions split a year (into era and year of the era) and a day number
    (into era and day of the era) -/
theorem divmod (x n : Int) (hn : 0 < n) : ∃ q r : Int, (0 ≤ r ∧ r < n) ∧ x = r + q * n :=
  ⟨x / n, x % n, ⟨Int.emod_nonneg _ (Int.ne_of_gt hn), Int.emod_lt_of_pos _ hn⟩, (Int.emod_add_ediv_mul x n).symm⟩

theorem ediv_of_split (q r n : Int) (h : 0 ≤ r ∧ r < n) : (r + q * n) / n = q := by
  rw [Int.add_mul_ediv_right _ _ (by lia), Int.ediv_eq_zero_of_lt h.1 h.2, Int.zero_add]

/-- Hinnant's year-of-era formula on a day in mixed radix. Day 365 exists only in the last year of a cycle, and not in the last cycle
    of the centuries 0-2 (the year that ends such a century is no leap year). The formula takes the leap days out of `doe`:
    `doe / 1460` overcounts the cycles by at most one, and only late in a cycle's last year; the two century terms together count the
    centuries (on the era's last day both are one too large). -/
theorem yoe_of_parts (c q r doy doe : Int) (hc : 0 ≤ c ∧ c ≤ 3) (hq : 0 ≤ q ∧ q ≤ 24) (hr : 0 ≤ r ∧ r ≤ 3)
    (h1 : 0 ≤ doy) (h2 : doy ≤ 364 ∨ doy = 365 ∧ r = 3 ∧ (q < 24 ∨ c = 3))
    (hdoe : doe = 36524 * c + 1461 * q + 365 * r + doy) :
    (doe - doe / 1460 + doe / 36524 - doe / 146096) / 365 = 100 * c + 4 * q + r := by
  lia

/-- every day of an era has such a form: the last day of the era and the last day of a full cycle are the days 365, on the others
    successive division does -/
theorem parts_of_doe (doe : Int) (h0 : 0 ≤ doe) (h1 : doe < 146097) :
    ∃ c q r doy : Int, (0 ≤ c ∧ c ≤ 3) ∧ (0 ≤ q ∧ q ≤ 24) ∧ (0 ≤ r ∧ r ≤ 3) ∧ 0 ≤ doy ∧
      (doy ≤ 364 ∨ doy = 365 ∧ r = 3 ∧ (q < 24 ∨ c = 3)) ∧ doe = 36524 * c + 1461 * q + 365 * r + doy := by
  by_cases hl : doe = 146096
  · exact ⟨3, 24, 3, 365, by lia⟩
  · obtain ⟨c, x, hx, rfl⟩ := divmod doe 36524 (by decide)
    obtain ⟨q, w, hw, rfl⟩ := divmod x 1461 (by decide)
    by_cases hw' : w = 1460
    · exact ⟨c, q, 3, 365, by lia⟩
    · obtain ⟨r, doy, hd, rfl⟩ := divmod w 365 (by decide)
      exact ⟨c, q, r, doy, by lia⟩

/-- the days before a year of the era, in that form -/
theorem yearStart_of_parts (c q r yoe : Int) (hq : 0 ≤ q ∧ q ≤ 24) (hr : 0 ≤ r ∧ r ≤ 3) (h : yoe = 100 * c + 4 * q + r) :
    yoe * 365 + yoe / 4 - yoe / 100 = 36524 * c + 1461 * q + 365 * r := by
  lia

/-- what `civilFromDays` computes from a day of the era: the year it lies in, and the day of that year -/
theorem doe_split (doe : Int) (h : 0 ≤ doe ∧ doe < 146097) :
    ∃ yoe doy : Int, (0 ≤ yoe ∧ yoe ≤ 399) ∧ (0 ≤ doy ∧ doy ≤ 365) ∧
      (doe - doe / 1460 + doe / 36524 - doe / 146096) / 365 = yoe ∧ doe = yoe * 365 + yoe / 4 - yoe / 100 + doy := by
  obtain ⟨c, q, r, doy, hc, hq, hr, hd, hl, rfl⟩ := parts_of_doe doe h.1 h.2
  exact ⟨100 * c + 4 * q + r, doy, by lia, by lia, yoe_of_parts c q r doy _ hc hq hr hd hl rfl,
    by rw [yearStart_of_parts c q r _ hq hr rfl]⟩

/-- conversely the year of the era and a day of that year (day 365 only in a leap year) give a day of the era, and the formula finds
    the year again -/
theorem yoe_of_doe (yoe doy doe : Int) (h0 : 0 ≤ yoe ∧ yoe ≤ 399) (h1 : 0 ≤ doy)
    (h2 : doy ≤ 364 ∨ (doy = 365 ∧ (yoe + 1) % 4 = 0 ∧ ((yoe + 1) % 100 ≠ 0 ∨ yoe = 399)))
    (hdoe : doe = yoe * 365 + yoe / 4 - yoe / 100 + doy) :
    (0 ≤ doe ∧ doe < 146097) ∧ (doe - doe / 1460 + doe / 36524 - doe / 146096) / 365 = yoe := by
  obtain ⟨c, q, r, hc, hq, hr, rfl⟩ : ∃ c q r : Int, (0 ≤ c ∧ c ≤ 3) ∧ (0 ≤ q ∧ q ≤ 24) ∧ (0 ≤ r ∧ r ≤ 3) ∧ yoe = 100 * c + 4 * q + r := by
    obtain ⟨c, s, hs, rfl⟩ := divmod yoe 100 (by decide)
    obtain ⟨q, r, hr, rfl⟩ := divmod s 4 (by decide)
    exact ⟨c, q, r, by lia⟩
  have hl : doy ≤ 364 ∨ doy = 365 ∧ r = 3 ∧ (q < 24 ∨ c = 3) := by lia
  rw [yearStart_of_parts c q r _ hq hr rfl] at hdoe
  rw [yoe_of_parts c q r doy doe hc hq hr h1 hl hdoe]
  lia

/-- the month index (0 = March) and the day of the month computed from a day of the year are in range -/
theorem month_of_doy (doy : Int) (h : 0 ≤ doy ∧ doy ≤ 365) :
    (0 ≤ (5 * doy + 2) / 153 ∧ (5 * doy + 2) / 153 ≤ 11) ∧
      1 ≤ doy - (153 * ((5 * doy + 2) / 153) + 2) / 5 + 1 ∧ doy - (153 * ((5 * doy + 2) / 153) + 2) / 5 + 1 ≤ 31 := by
  lia

/-- conversely a day of the month within the step of `(153 mp + 2) / 5` at a month index gives a day of the year with that index -/
theorem doy_of_month (mp d : Int) (hmp : 0 ≤ mp) (hd : 1 ≤ d) (hlen : d ≤ (153 * (mp + 1) + 2) / 5 - (153 * mp + 2) / 5) :
    0 ≤ (153 * mp + 2) / 5 + d - 1 ∧ (5 * ((153 * mp + 2) / 5 + d - 1) + 2) / 153 = mp := by
  lia

/-- the month table: outside February the length of month `m` is the step of `(153 mp + 2) / 5` at its index -/
theorem monthStart_succ (m y : Nat) (mp : Int) (hm : m ≤ 12) (h : m ≠ 2) (hmp : (if m > 2 then (m : Int) - 3 else m + 9) = mp) :
    (153 * (mp + 1) + 2) / 5 = (153 * mp + 2) / 5 + daysIn m y := by
  have table : ∀ m : Nat, m < 13 → m ≠ 2 → (153 * ((if m > 2 then (m : Int) - 3 else m + 9) + 1) + 2) / 5 =
      (153 * (if m > 2 then (m : Int) - 3 else m + 9) + 2) / 5 + daysIn m 0 := by decide
  rw [← hmp, table m (Nat.lt_succ_of_le hm) h]
  unfold daysIn
  rw [if_neg h, if_neg h]

/-- `daysFromCivil` once the year counted from March is split into era and year of the era, and the month index is named -/
theorem daysFromCivil_march (y m d : Nat) (era yoe mp : Int) (hyoe : 0 ≤ yoe ∧ yoe ≤ 399)
    (hy : (if m ≤ 2 then (y : Int) - 1 else y) = yoe + era * 400) (hmp : (if m > 2 then (m : Int) - 3 else m + 9) = mp) :
    daysFromCivil y m d = era * 146097 + (yoe * 365 + yoe / 4 - yoe / 100 + ((153 * mp + 2) / 5 + d - 1)) - 719468 := by
  simp only [daysFromCivil, hy, hmp, ediv_of_split era yoe 400 ⟨hyoe.1, Int.lt_add_one_iff.mpr hyoe.2⟩, Int.add_sub_cancel]

/-- the coordinates in which `daysFromCivil_march` is used: era and year of the era of the year counted from March, and the month index -/
theorem march_split (y m : Nat) : ∃ era yoe mp : Int, (0 ≤ yoe ∧ yoe ≤ 399) ∧
    (if m ≤ 2 then (y : Int) - 1 else y) = yoe + era * 400 ∧ (if m > 2 then (m : Int) - 3 else m + 9) = mp := by
  obtain ⟨era, yoe, h, e⟩ := divmod (if m ≤ 2 then (y : Int) - 1 else y) 400 (by decide)
  exact ⟨era, yoe, _, by lia, e, rfl⟩

/-- `civilFromDays` with its intermediate quantities named, once the year of the era is known to be found again (`doe_split`,
    `yoe_of_doe`) -/
theorem civilFromDays_of_parts (z era doe yoe doy mp : Int) (hz : z + 719468 = doe + era * 146097)
    (hdoe : doe = yoe * 365 + yoe / 4 - yoe / 100 + doy)
    (h : (0 ≤ doe ∧ doe < 146097) ∧ (doe - doe / 1460 + doe / 36524 - doe / 146096) / 365 = yoe) (hmp : (5 * doy + 2) / 153 = mp) :
    civilFromDays z =
      (if (if mp < 10 then mp + 3 else mp - 9) ≤ 2 then yoe + era * 400 + 1 else yoe + era * 400,
       (if mp < 10 then mp + 3 else mp - 9).toNat, (doy - (153 * mp + 2) / 5 + 1).toNat) := by
  have hdoy : doe - (365 * yoe + yoe / 4 - yoe / 100) = doy := Int.sub_eq_iff_eq_add'.mpr (by rw [hdoe, Int.mul_comm])
  simp only [civilFromDays, hz, ediv_of_split era doe _ h.1, Int.add_sub_cancel, h.2, hdoy, hmp]

/-- every day number is one that `daysFromCivil_march` produces, and is rendered as the date of those coordinates -/
theorem civilFromDays_march (z : Int) : ∃ era yoe mp d : Int, (0 ≤ yoe ∧ yoe ≤ 399) ∧ (0 ≤ mp ∧ mp ≤ 11) ∧ (1 ≤ d ∧ d ≤ 31) ∧
    z = era * 146097 + (yoe * 365 + yoe / 4 - yoe / 100 + ((153 * mp + 2) / 5 + d - 1)) - 719468 ∧
    civilFromDays z =
      (if (if mp < 10 then mp + 3 else mp - 9) ≤ 2 then yoe + era * 400 + 1 else yoe + era * 400,
       (if mp < 10 then mp + 3 else mp - 9).toNat, d.toNat) := by
  obtain ⟨era, doe, hdoe, hz⟩ := divmod (z + 719468) 146097 (by decide)
  obtain ⟨yoe, doy, hyoe, hdoy, hy, e⟩ := doe_split doe hdoe
  have hm := month_of_doy doy hdoy
  exact ⟨era, yoe, _, _, hyoe, hm.1, hm.2, by lia, civilFromDays_of_parts z era doe yoe doy _ hz e ⟨hdoe, hy⟩ rfl⟩

theorem isLeap_iff (y : Nat) : isLeap y = true ↔ y % 4 = 0 ∧ (y % 100 ≠ 0 ∨ y % 400 = 0) := by
  simp [isLeap]

/-- a day the parser accepts (`d ≤ daysIn m y`) in the coordinates of `civilFromDays`: within the step of the month table, and day 365
    of the year counted from March only as 29 February of a leap year -/
theorem valid_day_march (y m d : Nat) (era yoe mp : Int) (hm : m ≤ 12) (hd : d ≤ daysIn m y) (hyoe : 0 ≤ yoe ∧ yoe ≤ 399)
    (hy : (if m ≤ 2 then (y : Int) - 1 else y) = yoe + era * 400) (hmp : (if m > 2 then (m : Int) - 3 else m + 9) = mp) :
    (d : Int) ≤ (153 * (mp + 1) + 2) / 5 - (153 * mp + 2) / 5 ∧ ((153 * mp + 2) / 5 + d - 1 ≤ 364 ∨
      ((153 * mp + 2) / 5 + d - 1 = 365 ∧ (yoe + 1) % 4 = 0 ∧ ((yoe + 1) % 100 ≠ 0 ∨ yoe = 399))) := by
  by_cases h : m = 2
  · subst h hmp
    have hl := isLeap_iff y
    simp only [daysIn, if_true] at hd
    lia
  · have := monthStart_succ m y mp hm h hmp
    clear hy
    lia

end Gsp.Xsd
