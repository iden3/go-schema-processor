import Gsp.Model.Claim
import Gsp.Lemmas.Pack
/-! The claim built by `toCoreClaim`, in closed form. Slot 0 of the index and of the value are little-endian records that
    the model reads and writes by `/` and `%`: every setter maps the closed form to the closed form, and the decoder reads it
    back. After that, what a successful run of each stage went through. -/
namespace Gsp.Claim

/-- closed form of index slot 0: schema | flags byte | version -/
def i0Of (schema subj exp upd mrk ver : Nat) : Nat :=
  schema % 2 ^ 128 + 2 ^ 128 * (subj + 8 * exp + 16 * upd + 32 * mrk) + 2 ^ 160 * (ver % 2 ^ 32)

/-- closed form of value slot 0: nonce | expiration -/
def v0Of (nonce exp : Nat) : Nat := nonce % 2 ^ 64 + 2 ^ 64 * (exp % 2 ^ 64)

structure FlagsOk (subj exp upd mrk : Nat) : Prop where
  subj : subj < 8
  exp : exp < 2
  upd : upd < 2
  mrk : mrk < 8

/-- a claim is its eight slots, in the order in which the statements about the stages list them -/
theorem slots_iff {c : Claim} {a0 a1 a2 a3 b0 b1 b2 b3 : Nat} : c = ⟨a0, a1, a2, a3, b0, b1, b2, b3⟩ ↔
    c.i0 = a0 ∧ c.v0 = b0 ∧ c.i1 = a1 ∧ c.v1 = b1 ∧ c.i2 = a2 ∧ c.i3 = a3 ∧ c.v2 = b2 ∧ c.v3 = b3 := by
  constructor
  · rintro rfl; exact ⟨rfl, rfl, rfl, rfl, rfl, rfl, rfl, rfl⟩
  · rintro ⟨rfl, rfl, rfl, rfl, rfl, rfl, rfl, rfl⟩; rfl

variable {s sj e u m v : Nat}

/-- index slot 0 field by field, lowest first: schema (one of 2^128 values), subject position (8), expiration (2), updatable (2),
    merklized position (8), bytes 17..19 (2^24), version. All reading and writing below peels this form. -/
theorem i0Of_fields (s sj e u m v : Nat) :
    i0Of s sj e u m v = s % 2 ^ 128 + 2 ^ 128 * (sj + 8 * (e + 2 * (u + 2 * (m + 8 * (2 ^ 24 * (v % 2 ^ 32)))))) := by
  simp only [i0Of, Nat.mul_add, ← Nat.mul_assoc, Nat.add_assoc, Nat.reduceMul, Nat.reducePow]

theorem flagsOf_i0Of (h : FlagsOk sj e u m) : flagsOf (i0Of s sj e u m v) = sj + 8 * (e + 2 * (u + 2 * m)) := by
  rw [flagsOf, i0Of_fields, pack_div _ (mod_two_pow_lt s 128), pack_mod_mul _ (2 * (2 * 8)) h.subj, pack_mod_mul _ (2 * 8) h.exp,
    pack_mod_mul _ 8 h.upd, pack_mod _ h.mrk]

theorem withFlags_i0Of {f sj' e' u' m' : Nat} (h : FlagsOk sj e u m) (hf : f = sj' + 8 * e' + 16 * u' + 32 * m') :
    withFlags (i0Of s sj e u m v) f = i0Of s sj' e' u' m' v := by
  rw [withFlags, i0Of_fields, pack_mod _ (mod_two_pow_lt s 128), pack_div_mul _ (8 * (2 * (2 * 8))) (mod_two_pow_lt s 128),
    pack_div_mul _ (2 * (2 * 8)) h.subj, pack_div_mul _ (2 * 8) h.exp, pack_div_mul _ 8 h.upd, pack_div _ h.mrk, ← Nat.mul_assoc, hf]
  rfl

/-! The four lemmas that follow are proved alike. The first `rw` turns the setter into `withFlags` on the closed form and rewrites
    with `withFlags_i0Of`, whose new fields `sj' e' u' m'` are not known yet; the goal is then an equation between two closed
    forms, and the `rfl` that `rw` tries at the end closes it by choosing those fields. What remains is the hypothesis `hf` of
    `withFlags_i0Of`: the byte the model computes is the byte with the new field. The second line proves that. -/

theorem setSubject_form {c : Claim} (s' : Nat) (h : FlagsOk sj e u m) (hi : c.i0 = i0Of s sj e u m v) :
    setSubject c s' = { c with i0 := i0Of s s' e u m v } := by
  rw [setSubject, hi, flagsOf_i0Of h, withFlags_i0Of h]
  rw [pack_div _ h.subj]; simp +arith

/-- the model passes 32 and 64; `rw` finds them as `32 * 1` and `32 * 2` by evaluation -/
theorem setMerklized_form {c : Claim} (m' : Nat) (h : FlagsOk sj e u m) (hi : c.i0 = i0Of s sj e u m v) :
    setMerklized c (32 * m') = { c with i0 := i0Of s sj e u m' v } := by
  rw [setMerklized, hi, flagsOf_i0Of h, withFlags_i0Of h]
  rw [pack_mod_mul _ (2 * 2) h.subj, pack_mod_mul _ 2 h.exp, pack_mod _ h.upd]; simp +arith

theorem setExpirationFlag_form {c : Claim} (h : FlagsOk sj e u m) (hi : c.i0 = i0Of s sj e u m v) :
    setExpirationFlag c = { c with i0 := i0Of s sj 1 u m v } := by
  rw [setExpirationFlag, hi, flagsOf_i0Of h, withFlags_i0Of h]
  rw [pack_div _ h.subj, pack_mod _ h.exp]
  rcases Nat.le_one_iff_eq_zero_or_eq_one.1 (Nat.le_of_lt_succ h.exp) with rfl | rfl <;> simp +arith

theorem setUpdatable_form {c : Claim} (h : FlagsOk sj e u m) (hi : c.i0 = i0Of s sj e u m v) :
    setUpdatable c = { c with i0 := i0Of s sj e 1 m v } := by
  rw [setUpdatable, hi, flagsOf_i0Of h, withFlags_i0Of h]
  rw [pack_div_mul _ 2 h.subj, pack_div _ h.exp, pack_mod _ h.upd]
  rcases Nat.le_one_iff_eq_zero_or_eq_one.1 (Nat.le_of_lt_succ h.upd) with rfl | rfl <;> simp +arith

/-- Go's `uint64(unix)` -/
theorem toNat_emod_lt (t : Int) : (t % (2 ^ 64 : Int)).toNat < 2 ^ 64 :=
  (Int.toNat_lt' (by decide)).2 (Int.emod_lt_of_pos t (by decide))

/-- SetExpirationDate: the flag, and the date in place of whatever date was there -/
theorem setExpiration_form {c : Claim} {n x : Nat} (t : Int) (h : FlagsOk sj e u m)
    (hi : c.i0 = i0Of s sj e u m v) (hv : c.v0 = v0Of n x) :
    setExpiration c t = { c with i0 := i0Of s sj 1 u m v, v0 := v0Of n (t % (2 ^ 64 : Int)).toNat } := by
  rw [setExpiration, setExpirationFlag_form h hi]
  simp only [hv, v0Of, pack_mod _ (mod_two_pow_lt n 64), show (2 : Nat) ^ 128 = 2 ^ 64 * 2 ^ 64 from rfl, pack_div_mul _ _ (mod_two_pow_lt n 64),
    Nat.div_eq_of_lt (mod_two_pow_lt x 64), Nat.mod_eq_of_lt (toNat_emod_lt t), Nat.mul_zero, Nat.add_zero]

/-- NewClaim: schema, data slots, nonce and version, all flags clear -/
theorem newClaim_ok {schema ia ib va vb nonce ver : Nat} {cl : Claim} :
    newClaim schema ia ib va vb nonce ver = .ok cl →
    cl = ⟨i0Of schema 0 0 0 0 ver, 0, ia, ib, v0Of nonce 0, 0, va, vb⟩ := by
  fun_cases newClaim schema ia ib va vb nonce ver <;> intro h <;> cases h
  have hs := mod_two_pow_lt schema 128
  simp only [setVersion, setRevNonce, Claim.mk.injEq, true_and, and_true]
  refine ⟨?_, rfl⟩
  -- setVersion on a slot that holds only the schema: `schema % 2^128 % 2^160` is the schema, `schema % 2^128 / 2^192` is 0
  rw [Nat.mod_eq_of_lt (Nat.lt_trans hs (by decide)), Nat.div_eq_of_lt (Nat.lt_trans hs (by decide))]
  rfl

theorem decode_closed {i1 i2 i3 v1 v2 v3 n x : Nat} (h : FlagsOk sj e u m) :
    decode ⟨i0Of s sj e u m v, i1, i2, i3, v0Of n x, v1, v2, v3⟩ =
      ⟨s % 2 ^ 128, sj, e = 1, u = 1, m, v % 2 ^ 32, n % 2 ^ 64, x % 2 ^ 64, i1, v1, i2, i3, v2, v3⟩ := by
  simp only [decode, i0Of_fields, v0Of]
  -- each divisor as the product of the widths below the field it reads
  rw [show (2 : Nat) ^ 131 = 2 ^ 128 * 8 from rfl, show (2 : Nat) ^ 132 = 2 ^ 128 * (8 * 2) from rfl,
    show (2 : Nat) ^ 133 = 2 ^ 128 * (8 * (2 * 2)) from rfl, show (2 : Nat) ^ 160 = 2 ^ 128 * (8 * (2 * (2 * (8 * 2 ^ 24)))) from rfl]
  simp only [pack_div_mul, pack_div, pack_mod, mod_two_pow_lt, h.subj, h.exp, h.upd, h.mrk,
    Nat.mul_div_cancel_left _ (Nat.two_pow_pos 24), Nat.mod_mod]

theorem parseSlots_of_parseSer {attr : String} {fields : List (String × Nat)} {p : SlotPaths} {s : Nat × Nat × Nat × Nat}
    {nonM : Bool} (hattr : attr ≠ "") (hp : parseSer attr = .ok p) :
    parseSlots attr fields = .ok (s, nonM) ↔
      nonM = true ∧ fillSlot fields p.indexA = .ok s.1 ∧ fillSlot fields p.indexB = .ok s.2.1 ∧
        fillSlot fields p.valueA = .ok s.2.2.1 ∧ fillSlot fields p.valueB = .ok s.2.2.2 := by
  obtain ⟨a, b, c, d⟩ := s
  simp only [parseSlots, hattr, hp, if_false]
  -- the first slot that cannot be filled decides the `match`, whatever comes after it
  cases fillSlot fields p.indexA with | error e => simp | ok a =>
  cases fillSlot fields p.indexB with | error e => simp | ok b =>
  cases fillSlot fields p.valueA with | error e => simp | ok c =>
  cases fillSlot fields p.valueB with | error e => simp | ok d => simp [and_comm]

theorem fillSlot_ok {fields : List (String × Nat)} {path : String} {v : Nat} (hne : path ≠ "") :
    fillSlot fields path = .ok v → fields.lookup path = some v := by
  -- case1: the empty path; case2: the field is not in the document; case3: it is
  fun_cases fillSlot fields path with
  | case1 hp => exact absurd hp hne
  | case3 => exact fun h => Except.ok.inj h ▸ ‹_›
  | _ => intro h; cases h

theorem getFieldSlotIndex_ok {attr field : String} {i : Nat} : getFieldSlotIndex attr field = .ok i →
    field ≠ "" ∧ attr ≠ "" ∧ ∃ p, parseSer attr = .ok p ∧ slotIndexOf p field = .ok i := by
  -- the last case (both guards passed, the attribute parsed) is the only one that can return `.ok`
  fun_cases getFieldSlotIndex attr field with
  | case4 => exact fun h => ⟨‹_›, ‹_›, _, ‹_›, h⟩
  | _ => intro h; cases h

theorem slotIndexOf_ok {p : SlotPaths} {field : String} {i : Nat} : slotIndexOf p field = .ok i →
    (i = 2 ∧ field = p.indexA) ∨ (i = 3 ∧ field = p.indexB) ∨ (i = 6 ∧ field = p.valueA) ∨ (i = 7 ∧ field = p.valueB) := by
  fun_cases slotIndexOf p field <;> intro h <;> cases h
  · exact .inl ⟨rfl, ‹_›⟩
  · exact .inr (.inl ⟨rfl, ‹_›⟩)
  · exact .inr (.inr (.inl ⟨rfl, ‹_›⟩))
  · exact .inr (.inr (.inr ⟨rfl, ‹_›⟩))

theorem stageSubject_ok {opts : Opts} {c : CredIn} {cl cl' : Claim} : stageSubject opts c cl = .ok cl' →
    (c.subject = none ∧ cl' = cl) ∨
    (∃ id, c.subject = some (.ok id) ∧ opts.subjectPos ≠ "value" ∧ cl' = setIndexID cl id) ∨
    (∃ id, c.subject = some (.ok id) ∧ opts.subjectPos = "value" ∧ cl' = setValueID cl id) := by
  fun_cases stageSubject opts c cl <;> intro h <;> cases h
  · exact .inl ⟨‹_›, rfl⟩
  · rename_i id hs hp
    exact .inr (.inl ⟨id, hs, by rcases hp with hp | hp <;> rw [hp] <;> decide, rfl⟩)
  · exact .inr (.inr ⟨_, ‹_›, ‹_›, rfl⟩)

/-- the last stage together with `effectiveRootPos`, which chooses its position: a schema with serialization attribute takes no
    root and passes the claim on; one without gets the root in the index (the default) or in the value -/
theorem stageRoot_ok {opts : Opts} {nonM : Bool} {rootPos : String} {c : CredIn} {cl cl' : Claim}
    (hrp : effectiveRootPos opts nonM = .ok rootPos) (h : stageRoot rootPos c cl = .ok cl') :
    (nonM = true ∧ opts.rootPos = "" ∧ rootPos = "" ∧ cl' = cl) ∨
    (nonM = false ∧ opts.rootPos ≠ "value" ∧ rootPos = "index" ∧ setIndexRoot cl c.root = .ok cl') ∨
    (nonM = false ∧ opts.rootPos = "value" ∧ rootPos = "value" ∧ setValueRoot cl c.root = .ok cl') := by
  unfold effectiveRootPos at hrp
  unfold stageRoot at h
  cases nonM with
  | true =>
    -- with an attribute: `effectiveRootPos` succeeds only for `opts.rootPos = ""` and then says `""`, where `stageRoot` does nothing
    rw [if_neg (by decide)] at hrp
    split at hrp <;> cases hrp
    cases h
    exact .inl ⟨rfl, Decidable.of_not_not ‹_›, rfl, rfl⟩
  | false =>
    -- without one: the position is `opts.rootPos`, or "index" where that is `""`
    cases hrp
    refine .inr ?_
    by_cases hv : opts.rootPos = "value"
    · -- "value"
      rw [hv] at h ⊢
      exact .inr ⟨rfl, rfl, rfl, h⟩
    · by_cases he : opts.rootPos = ""
      · -- `""`, which stands for "index"
        rw [he] at h ⊢
        exact .inl ⟨rfl, by decide, rfl, h⟩
      · -- anything else: "index" itself, or an unknown position, which would have stopped `stageRoot`
        rw [if_neg he] at h ⊢
        split at h
        · exact .inl ⟨rfl, hv, ‹_›, h⟩
        · cases h

/-- a successful run of `toCoreClaim` under `opts`, step by step. A structure and not a nest of `∃`, so that the run under
    other options (C06: those rebuilt from the claim) is `{ r with hroot := _, h0 := _, h1 := _ }`: only these three steps
    mention `opts` -/
structure Run (opts : Opts) (c : CredIn) (cl : Claim) where
  (tp attr : String) (ia ib va vb : Nat) (nonM : Bool) (rootPos : String) (cl0 cl1 : Claim)
  mz : c.mzOk = true
  htp : findCredentialType c.subjectTypes c.topTypes = .ok tp
  hattr : c.attrOf tp = .ok attr
  hslots : parseSlots attr c.fields = .ok ((ia, ib, va, vb), nonM)
  hroot : effectiveRootPos opts nonM = .ok rootPos
  h0 : newClaim (c.schemaOf tp) ia ib va vb opts.revNonce opts.version = .ok cl0
  h1 : stageSubject opts c (stageFlags opts c cl0) = .ok cl1
  h2 : stageRoot rootPos c cl1 = .ok cl

theorem toCoreClaim_eq_ok {o : Option Opts} {c : CredIn} {cl : Claim} :
    toCoreClaim o c = .ok cl ↔ Nonempty (Run (o.getD defaultOpts) c cl) := by
  constructor
  · -- the last case (every step passed, the result is `stageRoot`'s) is the only one that can return `.ok`
    fun_cases toCoreClaim o c with
    | case8 =>
      exact fun h => ⟨⟨_, _, _, _, _, _, _, _, _, _, by simpa using (‹_› : ¬(!c.mzOk) = true), ‹_›, ‹_›, ‹_›, ‹_›, ‹_›, ‹_›, h⟩⟩
    | _ => intro h; cases h
  · rintro ⟨r⟩
    simp only [toCoreClaim, r.mz, r.htp, r.hattr, r.hslots, r.hroot, r.h0, r.h1, r.h2, Bool.not_true, Bool.false_eq_true, if_false]

end Gsp.Claim
