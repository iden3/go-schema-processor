import Gsp.Model.HasherCfg
/-! What a successful `Mz.merklize` went through, what `Mz.kvOf` makes of a list of entries, and which hashers the
    entries of `Cfg.entriesWithHasher` carry. -/
namespace Gsp.Mz
open Gsp.Rdf Gsp.Smt

variable {canon : String → Option String} {h : Hasher} {ds : Dataset} {t₀ : T} {mz : Merklizer}

theorem merklize_ok : merklize canon h ds t₀ = .ok mz →
    ∃ es, entries canon h.prime ds = .ok es ∧ kvOf h es = .ok mz.kvs ∧
      addAll (mz.kvs.map fun x => (x.k, x.v)) t₀ = .ok mz.tree := by
  -- case4: entries, their hashes and the insertions all succeeded; the other cases return .error
  fun_cases merklize canon h ds t₀ with
  | case4 => intro hm; cases hm; exact ⟨_, ‹_›, ‹_›, ‹_›⟩
  | _ => intro hm; cases hm

theorem kvOf_ok (es : List Entry) : ∀ (kvs : List KV), kvOf h es = .ok kvs →
    kvs.map (·.entry) = es ∧ ∀ x ∈ kvs, keyHash h x.entry.key = .ok x.k ∧ Xsd.enc h x.entry.value = .ok x.v := by
  -- case1: no entry left; case2: key and value of the entry hashed; the other cases return .error
  fun_induction kvOf h es with
  | case1 => intro _ hk; cases hk; exact ⟨rfl, fun _ hx => nomatch hx⟩
  | case2 e es _ _ _ _ ih =>
    intro kvs hk
    cases hr : kvOf h es with
    | error _ => rw [hr] at hk; cases hk
    | ok kvs' =>
      rw [hr] at hk; cases hk
      obtain ⟨h1, h2⟩ := ih _ hr
      exact ⟨congrArg (e :: ·) h1, List.forall_mem_cons.mpr ⟨⟨‹_›, ‹_›⟩, h2⟩⟩
  | _ => intro _ hk; cases hk

end Gsp.Mz

namespace Gsp.Cfg
open Gsp.Rdf

/-- the entries of `EntriesFromRDFWithHasher(ds, cfg)`: every key path carries `cfg ?? default`, every entry keeps `cfg` itself -/
theorem entriesWithHasher_hashers {canon : String → Option String} {cfg : Option Hasher} {dflt : Hasher} {ds : Dataset}
    {es : List EntryH} : entriesWithHasher canon cfg dflt ds = .ok es →
    ∀ e ∈ es, e.keyHasher = getHasher cfg dflt ∧ e.valueHasher = cfg := by
  -- case 1: `entries` failed; case 2: every entry is made by the same constructor application
  fun_cases entriesWithHasher canon cfg dflt ds <;> intro hes <;> cases hes
  intro e he
  obtain ⟨_, _, rfl⟩ := List.mem_map.mp he
  exact ⟨rfl, rfl⟩

end Gsp.Cfg
