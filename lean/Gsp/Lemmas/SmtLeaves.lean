import Gsp.Model.Smt
/-! The leaves of the sparse Merkle tree are exactly what was inserted: every successful insertion adds one leaf and
    leaves nothing else changed. The case numbers of `pushLeaf`, `add` and `addAll` are those listed at the head of
    Gsp/Lemmas/Smt.lean. -/
namespace Gsp.Smt

theorem leaves_pushLeaf {k v k' v' lvl fuel : Nat} {t : T} (h : pushLeaf k v k' v' lvl fuel = .ok t) :
    (leaves t).Perm [(k, v), (k', v')] := by
  fun_induction pushLeaf k v k' v' lvl fuel generalizing t with
  | case1 | case2 => cases h
  | case3 _ _ _ _ ht _ ih | case4 _ _ _ _ ht _ ih => cases h; simpa [leaves] using ih ht
  | case5 => cases h; exact .swap ..
  | case6 => cases h; exact .refl _

theorem leaves_add {k v : Nat} {t : T} {lvl fuel : Nat} {t' : T} (h : add k v t lvl fuel = .ok t') :
    (leaves t').Perm ((k, v) :: leaves t) := by
  fun_induction add k v t lvl fuel generalizing t' with
  | case1 | case3 | case5 | case7 => cases h
  | case2 => cases h; exact .refl _
  | case4 => exact leaves_pushLeaf h
  | case6 _ _ _ _ _ _ hr ih => cases h; exact ((ih hr).append_left _).trans List.perm_middle
  | case8 _ _ _ _ _ _ hl ih => cases h; exact (ih hl).append_right _

theorem leaves_addAll (kvs : List (Nat × Nat)) (t t' : T) (h : addAll kvs t = .ok t') :
    (leaves t').Perm (kvs ++ leaves t) := by
  fun_induction addAll kvs t with
  | case1 => cases h; exact .refl _
  | case2 => cases h
  | case3 k v rest t t1 h1 ih =>
    exact (ih h).trans (((leaves_add h1).append_left rest).trans List.perm_middle)

end Gsp.Smt
