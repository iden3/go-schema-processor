/-! Association lists (`List.lookup`) with pairwise different keys - Go's maps, as the models spell them.
    Nothing here is about a particular model. -/
namespace Gsp.Assoc
universe u v
variable {α : Type u} {β : Type v} [BEq α] [LawfulBEq α] {l l₁ l₂ : List (α × β)} {k : α} {v : β}

theorem mem_of_lookup (h : l.lookup k = some v) : (k, v) ∈ l := by
  obtain ⟨_, _, rfl, -⟩ := List.lookup_eq_some_iff.mp h
  simp

theorem lookup_of_mem (hnd : (l.map (·.1)).Nodup) (hm : (k, v) ∈ l) : l.lookup k = some v := by
  induction l with
  | nil => cases hm
  | cons x rest ih =>
    obtain ⟨hx, hnd⟩ := List.nodup_cons.mp hnd
    rcases List.mem_cons.mp hm with rfl | hm
    · exact List.lookup_cons_self
    · have : (k == x.1) = false := beq_false_of_ne fun e => hx (List.mem_map.mpr ⟨_, hm, e⟩)
      rw [List.lookup, this]
      exact ih hnd hm

theorem lookup_none_of_not_mem (h : k ∉ l.map (·.1)) : l.lookup k = none :=
  List.lookup_eq_none_iff.mpr fun p hp => bne_iff_ne.mpr fun e => h (List.mem_map.mpr ⟨p, hp, e.symm⟩)

/-- if the entries under `k` are exactly `r` (none, or one value however often), `lookup` returns `r` -/
theorem lookup_eq_of_mem_iff {r : Option β} (h : ∀ v, (k, v) ∈ l ↔ r = some v) : l.lookup k = r := by
  cases hl : l.lookup k with
  | some v => exact ((h v).mp (mem_of_lookup hl)).symm
  | none =>
    cases r with
    | none => rfl
    | some v => simpa using List.lookup_eq_none_iff.mp hl _ ((h v).mpr rfl)

theorem lookup_perm (hp : l₁.Perm l₂) (hnd : (l₁.map (·.1)).Nodup) (k : α) : l₁.lookup k = l₂.lookup k :=
  Option.ext fun _ =>
    ⟨fun h => lookup_of_mem ((hp.map _).nodup hnd) (hp.mem_iff.mp (mem_of_lookup h)),
     fun h => lookup_of_mem hnd (hp.mem_iff.mpr (mem_of_lookup h))⟩

theorem lookup_filter_ne {α : Type u} [DecidableEq α] {l : List (α × β)} {k k' : α} (hne : k' ≠ k) :
    (l.filter (·.1 ≠ k)).lookup k' = l.lookup k' := by
  induction l with
  | nil => rfl
  | cons x rest ih =>
    by_cases hx : x.1 = k
    · have : (k' == x.1) = false := beq_false_of_ne (hx ▸ hne)
      rw [List.filter_cons_of_neg (by simpa using hx), ih, List.lookup, this]
    · rw [List.filter_cons_of_pos (by simpa using hx), List.lookup, List.lookup, ih]

theorem lookup_map_const (l : List α) (c : β) (q : α) :
    (l.map fun a => (a, c)).lookup q = if q ∈ l then some c else none := by
  induction l with
  | nil => rfl
  | cons a l ih =>
    rw [List.map_cons, List.lookup_cons, ih]
    by_cases e : q = a
    · rw [beq_iff_eq.mpr e, if_pos (List.mem_cons.mpr (.inl e))]
    · rw [beq_false_of_ne e]; simp only [List.mem_cons, e, false_or]

end Gsp.Assoc
