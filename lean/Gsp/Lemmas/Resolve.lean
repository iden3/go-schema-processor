import Gsp.Model.Resolve
import Gsp.Lemmas.Assoc
/-! finite-map laws of the status-resolver registry, its refinement to the history specification `lastWrite`, and the state entry
    of a DID document (`stateInfo` is `List.find?`) -/
namespace Gsp.Resolve

theorem get_delete (r : Registry) (t' t : String) : (r.delete t').get t = if t' = t then none else r.get t := by
  by_cases ht : t' = t
  · subst ht; rw [if_pos rfl]
    exact List.lookup_eq_none_iff.mpr fun _ hp => bne_iff_ne.mpr (Ne.symm (of_decide_eq_true (List.mem_filter.mp hp).2))
  · rw [if_neg ht]; exact Assoc.lookup_filter_ne (Ne.symm ht)

theorem get_register (r : Registry) (t' : String) (res : Nat) (t : String) :
    (r.register t' res).get t = if t' = t then some res else r.get t := by
  by_cases ht : t' = t
  · subst ht; rw [if_pos rfl]; exact List.lookup_cons_self
  · have := get_delete r t' t
    rw [if_neg ht] at this ⊢
    show List.lookup t ((t', res) :: r.delete t') = _
    rw [List.lookup_cons, beq_false_of_ne (Ne.symm ht)]; exact this

theorem lastWrite_cons (own : Bool) (t : String) (op : Op) (ops : List Op) (acc : Option Nat) :
    lastWrite own t (op :: ops) acc = lastWrite own t ops (lastWrite own t [op] acc) := by
  cases op <;> rfl

theorem lastWrite_append (own : Bool) (t : String) (a b : List Op) (acc : Option Nat) :
    lastWrite own t (a ++ b) acc = lastWrite own t b (lastWrite own t a acc) := by
  induction a generalizing acc with
  | nil => rfl
  | cons op a ih => rw [List.cons_append, lastWrite_cons, ih, ← lastWrite_cons]

theorem lastWrite_fixed {own : Bool} {t : String} {ops : List Op} {acc : Option Nat}
    (h : ∀ op ∈ ops, lastWrite own t [op] acc = acc) : lastWrite own t ops acc = acc := by
  induction ops with
  | nil => rfl
  | cons op ops ih => rw [lastWrite_cons, h op List.mem_cons_self, ih fun op hm => h op (List.mem_cons_of_mem _ hm)]

theorem lastWrite_none {own : Bool} {t : String} {ops : List Op}
    (h : ∀ o t' res, Op.register o t' res ∈ ops → ¬ (o = own ∧ t' = t)) : lastWrite own t ops none = none :=
  lastWrite_fixed fun op hm => by
    cases op with
    | register o t' res => exact if_neg (h o t' res hm)
    | delete o t' => exact ite_self none
    | resolve o t' => rfl

/-- operations that do not write `t` in the registry `own` leave what the history says about `t` as it is -/
theorem lastWrite_skip {own : Bool} {t : String} {ops : List Op} {acc : Option Nat}
    (h : ∀ op ∈ ops, match op with
      | .register o t' _ => ¬ (o = own ∧ t' = t)
      | .delete o t' => ¬ (o = own ∧ t' = t)
      | .resolve _ _ => True) :
    lastWrite own t ops acc = acc :=
  lastWrite_fixed fun op hm => by
    have := h op hm
    cases op with
    | register o t' res => exact if_neg this
    | delete o t' => exact if_neg this
    | resolve o t' => rfl

def touches (own : Bool) : Op → Bool
  | .register o _ _ => o = own
  | .delete o _ => o = own
  | .resolve _ _ => false

def Op.write : Op → Registry → Registry
  | .register _ t res, r => r.register t res
  | .delete _ t, r => r.delete t
  | .resolve _ _, r => r

/-- what one operation does to a registry: what follows about `final` and `run` is induction over this equation -/
theorem reg_step (s : St) (op : Op) (own : Bool) :
    (step s op).1.reg own = if touches own op then op.write (s.reg own) else s.reg own := by
  cases op with
  | register o t res => cases o <;> cases own <;> rfl
  | delete o t => cases o <;> cases own <;> rfl
  | resolve o t => cases o <;> rfl

/-- operations on the default registry (and lookups) leave the verifier's own registry as it is, and the other way round -/
theorem final_reg_filter (own : Bool) : ∀ (ops : List Op) (s s' : St), s.reg own = s'.reg own →
    (final s ops).reg own = (final s' (ops.filter (touches own))).reg own := by
  intro ops
  induction ops with
  | nil => exact fun _ _ h => h
  | cons op ops ih =>
    intro s s' h
    have hs := reg_step s op own
    rw [List.filter_cons]
    cases ht : touches own op <;> rw [ht] at hs
    · exact ih _ _ (hs.trans h)
    · exact ih _ _ (by rw [hs, reg_step, ht, h])

theorem get_step (s : St) (op : Op) (own : Bool) (t : String) :
    ((step s op).1.reg own).get t = lastWrite own t [op] ((s.reg own).get t) := by
  rw [reg_step]
  cases op with
  | register o t' res => by_cases ho : o = own <;> simp [touches, Op.write, lastWrite, ho, get_register]
  | delete o t' => by_cases ho : o = own <;> simp [touches, Op.write, lastWrite, ho, get_delete]
  | resolve o t' => rfl

/-- the registries after a history say about `t` what the history's last write to exactly `t` says -/
theorem final_reg_spec (own : Bool) (t : String) : ∀ (ops : List Op) (s : St),
    ((final s ops).reg own).get t = lastWrite own t ops ((s.reg own).get t) := by
  intro ops
  induction ops with
  | nil => exact fun _ => rfl
  | cons op ops ih => intro s; rw [lastWrite_cons, ← get_step]; exact ih _

theorem run_resolve_last (s : St) (pre : List Op) (own : Bool) (t : String) :
    run s (pre ++ [.resolve own t]) = run s pre ++ [some (((final s pre).reg own).get t)] := by
  induction pre generalizing s with
  | nil => cases own <;> rfl
  | cons op pre ih => exact congrArg _ (ih _)

theorem resolve_last_filter {own : Bool} {t : String} {pre : List Op} {s s' : St} (h : s.reg own = s'.reg own) :
    (run s (pre ++ [.resolve own t])).getLast? = (run s' (pre.filter (touches own) ++ [.resolve own t])).getLast? := by
  rw [run_resolve_last, run_resolve_last, List.getLast?_concat, List.getLast?_concat, final_reg_filter own pre s s' h]

theorem stateInfo_eq_find? (vms : List VM) : stateInfo vms = vms.find? (fun v => v.tp = stateInfoType) := by
  induction vms with
  | nil => rfl
  | cons v vs ih =>
    rw [List.find?_cons, ← ih, stateInfo]
    by_cases h : v.tp = stateInfoType
    · rw [if_pos h, decide_eq_true h]
    · rw [if_neg h, decide_eq_false h]

theorem stateInfo_eq_some {vms : List VM} {v : VM} (h : stateInfo vms = some v) :
    ∃ pre post, vms = pre ++ v :: post ∧ v.tp = stateInfoType ∧ ∀ w ∈ pre, w.tp ≠ stateInfoType := by
  rw [stateInfo_eq_find?, List.find?_eq_some_iff_append] at h
  obtain ⟨hv, pre, post, he, hpre⟩ := h
  exact ⟨pre, post, he, of_decide_eq_true hv, fun w hw hw' => by simpa [hw'] using hpre w hw⟩

theorem stateInfo_eq_none {vms : List VM} (h : ∀ w ∈ vms, w.tp ≠ stateInfoType) : stateInfo vms = none := by
  rw [stateInfo_eq_find?, List.find?_eq_none]
  exact fun w hw hd => h w hw (of_decide_eq_true hd)

theorem stateInfo_append (a b : List VM) : stateInfo (a ++ b) = (stateInfo a).or (stateInfo b) := by
  simp only [stateInfo_eq_find?, List.find?_append]

end Gsp.Resolve
