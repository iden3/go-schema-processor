/-! Little-endian fields: `a + k * b` with `a < k` is the field `a`, one of `k` values, with `b` above it. The slots of a claim
    (`Lemmas/Claim`) and the bytes of a slot (`Lemmas/Hex`) are read and written through these. -/
namespace Gsp

theorem pack_div {a k : Nat} (b : Nat) (h : a < k) : (a + k * b) / k = b := by
  rw [Nat.add_mul_div_left _ _ (Nat.zero_lt_of_lt h), Nat.div_eq_of_lt h, Nat.zero_add]

theorem pack_mod {a k : Nat} (b : Nat) (h : a < k) : (a + k * b) % k = a := by
  rw [Nat.add_mul_mod_self_left, Nat.mod_eq_of_lt h]

/-- reading above the lowest field: drop it and go on. (`rw` matches a literal divisor such as `2 ^ 136` against `2 ^ 128 * 256` by
    evaluation, as in `Claim.withFlags_i0Of`, as long as `j` is a small numeral; for a large `j` the product is written out first,
    as in `Claim.decode_closed`.) -/
theorem pack_div_mul {a k : Nat} (b j : Nat) (h : a < k) : (a + k * b) / (k * j) = b / j := by
  rw [← Nat.div_div_eq_div_mul, pack_div b h]

theorem pack_mod_mul {a k : Nat} (b j : Nat) (h : a < k) : (a + k * b) % (k * j) = a + k * (b % j) := by
  rw [Nat.mod_mul, pack_mod b h, pack_div b h]

theorem mod_two_pow_lt (n k : Nat) : n % 2 ^ k < 2 ^ k := Nat.mod_lt _ (Nat.two_pow_pos k)

end Gsp
