import Gsp.Model.Rdf
import Gsp.Lemmas.Assoc
/-! Lemmas about M2 (`Gsp.Rdf`): what a successful `getQuad`, step of `walk`, `path`, round of `goEntries` and `entries` went
    through (the `_ok` lemmas); the shape of the paths built by the parent walk; the closed form of sibling indices. -/
namespace Gsp.Rdf

variable {canon : String → Option String} {p : Nat} {ds : Dataset} {rel : Rel} {g : String} {all qs rest : List Quad}
  {q : Quad} {i : Nat} {ix cur : Idx} {idx : Option Nat} {seen : Seen} {es : List Entry} {acc r key : List PathPart}

def idxPart : Option Nat → List PathPart
  | some n => [PathPart.i n]
  | none => []

def Quad.isValue (q : Quad) : Bool :=
  match q.o with
  | .blank _ => false
  | _ => true

/-- the value and datatype `goEntries` stores for a literal or IRI object -/
def objValue (canon : String → Option String) (p : Nat) : Obj → Except String (Xsd.XVal × String)
  | .lit v dt => (Xsd.convert canon dt v p).map fun x => (x, dt)
  | .iri v => .ok (.str v, "")
  | .blank _ => .error "unreachable"

theorem getQuad_ok : getQuad ds ix = .ok q → ∃ qs, ds.lookup ix.1 = some qs ∧ qs[ix.2]? = some q := by
  -- case3: graph and quad found; the other cases return .error
  fun_cases getQuad ds ix with
  | case3 => intro h; cases h; exact ⟨_, ‹_›, ‹_›⟩
  | _ => intro h; cases h

theorem getQuad_of_lookup {k : Nat} (hl : ds.lookup g = some qs) (hq : qs[k]? = some q) : getQuad ds (g, k) = .ok q := by
  simp only [getQuad, hl, hq]

/-- a link up appends the parent's predicate, preceded by the child's position when the parent has several children -/
theorem walk_succ_ok {f : Nat} (h : walk ds rel (f+1) cur acc = .ok r) :
    (rel.parents.lookup cur = none ∧ r = acc) ∨
    ∃ pix parent pk cm child ci, rel.parents.lookup cur = some pix ∧ getQuad ds pix = .ok parent ∧
      mkQKey parent = .ok pk ∧ rel.children.lookup pk = some cm ∧ getQuad ds cur = .ok child ∧
      cm.lookup child.s = some ci ∧
      walk ds rel f pix (acc ++ if cm.length = 1 then [.s parent.p] else [.i ci, .s parent.p]) = .ok r := by
  generalize hf : f + 1 = fuel at h
  revert h
  -- case2: no parent recorded, the chain ends; case8: every lookup of the link succeeded; the other cases return .error
  fun_cases walk ds rel fuel cur acc with
  | case2 => intro h; cases h; exact .inl ⟨‹_›, rfl⟩
  | case8 =>
    intro h; cases hf
    refine .inr ⟨_, _, _, _, _, _, ‹_›, ‹_›, ‹_›, ‹_›, ‹_›, ‹_›, ?_⟩
    rw [← h]; split <;> rfl
  | _ => intro h; cases h

theorem path_ok : path ds rel ix idx = .ok key →
    ∃ q r, getQuad ds ix = .ok q ∧ walk ds rel (totalQuads ds + 1) ix (idxPart idx ++ [.s q.p]) = .ok r ∧ key = r.reverse := by
  -- case3: the quad is there and the walk succeeded; the other cases return .error
  fun_cases path ds rel ix idx with
  | case3 => intro h; cases h; exact ⟨_, _, ‹_›, ‹_›, rfl⟩
  | _ => intro h; cases h

theorem goEntries_cons_ok (h : goEntries canon p ds rel g all (q :: rest) i seen = .ok es) :
    ∃ k, mkQKey q = .ok k ∧
      ((q.isValue = false ∧ goEntries canon p ds rel g all rest (i+1) seen = .ok es) ∨
       (q.isValue = true ∧ ∃ xv dt key es', objValue canon p q.o = .ok (xv, dt) ∧
          path ds rel (g, i) (if count all k = 1 then none else some ((seen.lookup k).getD 0)) = .ok key ∧
          goEntries canon p ds rel g all rest (i+1)
            (if count all k = 1 then seen else (k, (seen.lookup k).getD 0 + 1) :: seen.filter (·.1 ≠ k)) = .ok es' ∧
          es = ⟨key, xv, dt⟩ :: es')) := by
  generalize hqs : q :: rest = qs at h
  revert h
  -- case1: no quad left; case3: blank-node object with children, skipped; case9: the entry is made; the other cases return .error
  fun_cases goEntries canon p ds rel g all qs i seen with
  | case1 => cases hqs
  | case3 =>
    intro h; cases hqs
    exact ⟨_, ‹_›, .inl ⟨by simp only [Quad.isValue, *], h⟩⟩
  | case9 =>
    intro h; cases hqs; cases h
    have hv : q.isValue = true := by
      unfold Quad.isValue; split
      · exact absurd ‹_› (‹∀ v, q.o = .blank v → False› _)
      · rfl
    exact ⟨_, ‹_›, .inr ⟨hv, _, _, _, _, ‹_›, ‹_›, ‹_›, rfl⟩⟩
  | _ => intro h; cases h

theorem entries_ok : entries canon p ds = .ok es →
    ∃ rel, newRelationship ds = .ok rel ∧ entriesGraphs canon p ds rel (sortedGraphs ds) = .ok es := by
  -- case4: consistent, with a default graph and a parent map; the other cases return .error
  fun_cases entries canon p ds with
  | case4 => exact fun h => ⟨_, ‹_›, h⟩
  | _ => intro h; cases h

/-- the string parts of a path, positions erased -/
def strs : List PathPart → List String
  | [] => []
  | .s v :: r => v :: strs r
  | .i _ :: r => strs r

theorem strs_append (a b : List PathPart) : strs (a ++ b) = strs a ++ strs b := by
  induction a with
  | nil => rfl
  | cons x r ih => cases x <;> simp [strs, ih]

theorem strs_reverse (a : List PathPart) : strs a.reverse = (strs a).reverse := by
  induction a with
  | nil => rfl
  | cons x r ih => cases x <;> simp [strs, strs_append, ih]

theorem strs_idxPart (idx : Option Nat) : strs (idxPart idx) = [] := by cases idx <;> rfl

/-- predicates of the successive parents of `cur` in the parent map, nearest first -/
def upPreds (ds : Dataset) (rel : Rel) : Nat → Idx → List String
  | 0, _ => []
  | fuel+1, cur =>
    match rel.parents.lookup cur with
    | none => []
    | some pix =>
      match getQuad ds pix with
      | .error _ => []
      | .ok parent => parent.p :: upPreds ds rel fuel pix

/-- `acc` and `r` hold the path in reverse: the walk only appends -/
theorem walk_spec {fuel : Nat} (h : walk ds rel fuel cur acc = .ok r) :
    ∃ t, r = acc ++ t ∧ strs t = upPreds ds rel fuel cur := by
  induction fuel generalizing cur acc with
  | zero => cases h
  | succ f ih =>
    rcases walk_succ_ok h with ⟨hp, rfl⟩ | ⟨pix, parent, _, cm, _, ci, hp, hpar, -, -, -, -, h'⟩
    · exact ⟨[], (List.append_nil _).symm, by rw [upPreds, hp]; rfl⟩
    · obtain ⟨t, rfl, ht⟩ := ih h'
      refine ⟨_, List.append_assoc .., ?_⟩
      simp only [upPreds, hp, hpar, strs_append, ht]
      split <;> rfl

theorem walk_strs (ds : Dataset) (rel : Rel) :
    ∀ (fuel : Nat) (cur : Idx) (acc r : List PathPart), walk ds rel fuel cur acc = .ok r →
      strs r = strs acc ++ upPreds ds rel fuel cur := by
  intro fuel cur acc r h
  obtain ⟨t, rfl, ht⟩ := walk_spec h
  rw [strs_append, ht]

/-- **shape of a key**: the path of a quad ends with the quad's own predicate, followed by its sibling index when it
    has one; everything before comes from the parent chain, whose predicates (outermost first) are its string parts -/
theorem path_spec (h : path ds rel ix idx = .ok key) :
    ∃ q up, getQuad ds ix = .ok q ∧ key = up ++ [PathPart.s q.p] ++ idxPart idx ∧
      strs up = (upPreds ds rel (totalQuads ds + 1) ix).reverse := by
  obtain ⟨q, r, hq, hw, rfl⟩ := path_ok h
  obtain ⟨t, rfl, ht⟩ := walk_spec hw
  exact ⟨q, t.reverse, hq, by cases idx <;> simp [idxPart], by rw [strs_reverse, ht]⟩

/-- **string parts of a key**: the predicates of the parent chain, outermost first, then the quad's own predicate -/
theorem path_strs (ds : Dataset) (rel : Rel) (ix : Idx) (idx : Option Nat) (key : List PathPart)
    (h : path ds rel ix idx = .ok key) :
    ∃ q, getQuad ds ix = .ok q ∧ strs key = (upPreds ds rel (totalQuads ds + 1) ix).reverse ++ [q.p] := by
  obtain ⟨q, up, hq, rfl, hu⟩ := path_spec h
  exact ⟨q, hq, by rw [strs_append, strs_append, hu, strs_idxPart, List.append_nil]; rfl⟩

theorem getQuad_inj_p (ds : Dataset) (ix : Idx) (q q' : Quad) (h : getQuad ds ix = .ok q) (h' : getQuad ds ix = .ok q') : q = q' :=
  Except.ok.inj (h.symm.trans h')

def hasKey (k : QKey) (q : Quad) : Bool := decide ((mkQKey q).toOption = some k)

/-- number of literal/IRI quads with key `k` among `pre` -/
def nbBefore (pre : List Quad) (k : QKey) : Nat := (pre.filter fun q => q.isValue && hasKey k q).length

theorem nbBefore_cons (q : Quad) (rest : List Quad) (k : QKey) :
    nbBefore (q :: rest) k = (if q.isValue && hasKey k q then 1 else 0) + nbBefore rest k := by
  unfold nbBefore
  rw [List.filter_cons]
  split <;> simp [Nat.add_comm]

theorem nbBefore_snoc (pre : List Quad) (q : Quad) (k : QKey) :
    nbBefore (pre ++ [q]) k = nbBefore pre k + (if q.isValue && hasKey k q then 1 else 0) := by
  rw [nbBefore, List.filter_append, List.length_append, ← nbBefore, ← nbBefore, nbBefore_cons]
  rfl

/-- what `seen` must say about the quads already visited: for every key that is indexed at all (count ≠ 1) the
    recorded number is the number of literal/IRI quads with that key seen so far -/
def SeenOK (all pre : List Quad) (seen : Seen) : Prop :=
  ∀ k, count all k ≠ 1 → (seen.lookup k).getD 0 = nbBefore pre k

/-- the last path part the statement assigns to each literal/IRI quad of `qs`, given the quads `pre` before them -/
def lastSpec (all : List Quad) : List Quad → List Quad → List PathPart
  | _, [] => []
  | pre, q :: rest =>
    if q.isValue then
      (match mkQKey q with
       | .ok k => if count all k = 1 then PathPart.s q.p else PathPart.i (nbBefore pre k)
       | .error _ => PathPart.s q.p) :: lastSpec all (pre ++ [q]) rest
    else lastSpec all (pre ++ [q]) rest

theorem hasKey_of_mk {k k' : QKey} (hk : mkQKey q = .ok k) : hasKey k' q = decide (k = k') := by
  simp [hasKey, hk, Except.toOption]

theorem SeenOK.nil (all : List Quad) : SeenOK all [] [] := fun _ _ => rfl

theorem SeenOK.snoc_blank {pre : List Quad} (h : SeenOK all pre seen) (hv : q.isValue = false) : SeenOK all (pre ++ [q]) seen := by
  intro k hk
  rw [nbBefore_snoc, h k hk]
  simp [hv]

/-- the `seenCount` update of `goEntries` after a literal/IRI quad of key `k` -/
theorem SeenOK.snoc_value {pre : List Quad} {k : QKey} (h : SeenOK all pre seen) (hq : mkQKey q = .ok k) (hv : q.isValue = true) :
    SeenOK all (pre ++ [q]) (if count all k = 1 then seen else (k, (seen.lookup k).getD 0 + 1) :: seen.filter (·.1 ≠ k)) := by
  intro k' hk'
  rw [nbBefore_snoc, hasKey_of_mk hq]
  by_cases e : k = k'
  · subst e
    simp [hv, hk', h k hk']
  · have hne : k' ≠ k := fun x => e x.symm
    split
    · simp [e, h k' hk']
    · rw [List.lookup, beq_false_of_ne hne, Assoc.lookup_filter_ne hne, h k' hk']
      simp [e]

/-- **closed form of the sibling indices** (the loop of EntriesFromRDFWithHasher with its `seenCount` map): on success
    the key of the entry of every literal/IRI quad ends with the quad's predicate when its (subject, predicate, graph)
    key occurs once in the graph, and otherwise with the number of literal/IRI quads of the same key that come before
    it — so the values of a multi-valued property are numbered 0, 1, 2, … in quad order, with no gap and no repeat. -/
theorem goEntries_last {pre : List Quad} (hds : ∀ y ∈ qs.zipIdx i, getQuad ds (g, y.2) = .ok y.1) (hseen : SeenOK all pre seen)
    (h : goEntries canon p ds rel g all qs i seen = .ok es) :
    es.map (fun e => e.key.getLast?) = (lastSpec all pre qs).map some := by
  induction qs generalizing i pre seen es with
  | nil => cases h; rfl
  | cons q rest ih =>
    obtain ⟨hq, hds⟩ := List.forall_mem_cons.mp (List.zipIdx_cons ▸ hds)
    obtain ⟨k, hk, ⟨hv, h'⟩ | ⟨hv, xv, dt, key, es', -, hkey, hes', rfl⟩⟩ := goEntries_cons_ok h
    · simpa [lastSpec, hv] using ih hds (hseen.snoc_blank hv) h'
    · obtain ⟨q', up, hq', rfl, -⟩ := path_spec hkey
      cases getQuad_inj_p _ _ _ _ hq' hq
      have := ih hds (hseen.snoc_value hk hv) hes'
      by_cases hc : count all k = 1
      · simp [lastSpec, hv, hk, hc, idxPart, this]
      · simp [lastSpec, hv, hk, hc, idxPart, hseen k hc, this]

/-- the indices handed to the literal/IRI quads of key `k`, in quad order -/
def idxSeq (k : QKey) : List Quad → List Quad → List Nat
  | _, [] => []
  | pre, q :: rest =>
    if q.isValue && hasKey k q then nbBefore pre k :: idxSeq k (pre ++ [q]) rest else idxSeq k (pre ++ [q]) rest

/-- the indices go up one by one; `nbBefore qs k` stands here for the number of all literal/IRI quads of key `k` in `qs` -/
theorem idxSeq_range (k : QKey) (qs : List Quad) : ∀ pre, idxSeq k pre qs = List.range' (nbBefore pre k) (nbBefore qs k) := by
  induction qs with
  | nil => intro _; rfl
  | cons q rest ih =>
    intro pre
    rw [idxSeq, nbBefore_cons, ih, nbBefore_snoc]
    split
    · rw [Nat.add_comm 1, List.range'_succ]
    · simp

end Gsp.Rdf
