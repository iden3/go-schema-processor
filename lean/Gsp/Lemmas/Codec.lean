import Gsp.Model.Codec
/-! What a successful `Codec.decodeM`, and the `go` it ends in, went through: the count guard, the recorded root, the
    provided tree handed back unchanged (C13 reads the count guard and the caller-provided-tree condition off these). -/
namespace Gsp.Codec
open Gsp.Smt

/-- the first conjunct is the count guard, passed -/
theorem decodeM_go_ok {h : Hasher} {src comp : String} {root : Nat} {n : Int} {rest : List Tok} {t₀ : Option T} {r : Restored} :
    decodeM.go h src comp root n rest t₀ = .ok r →
    ¬ (n < 0 ∨ n > rest.length) ∧ r.image.root = root ∧ ∀ t, t₀ = some t → r.tree = t := by
  -- of the seven cases only two return `.ok`: case 3 with the provided tree, case 6 with the tree rebuilt from the entries
  fun_cases decodeM.go h src comp root n rest t₀ <;> intro hd <;> cases hd
  · exact ⟨‹_›, rfl, fun _ ht => Option.some.inj ht ▸ rfl⟩
  · exact ⟨‹_›, rfl, nofun⟩

theorem decodeM_ok {P : List Nat → Nat} {h : Hasher} {t₀ : Option T} {ts : List Tok} {r : Restored} :
    decodeM P h t₀ ts = .ok r →
    ∃ ver src comp root n rest, ts = .int ver :: .bytes src :: .bytes comp :: .big root :: .int n :: rest ∧
      decodeM.go h src comp root.toNat n rest t₀ = .ok r ∧ ∀ t, t₀ = some t → T.hash P t = root.toNat := by
  -- case 4: a provided tree whose root matches, case 5: no tree; the other four are the errors of the header
  fun_cases decodeM P h t₀ ts with
  | case4 => exact fun hd => ⟨_, _, _, _, _, _, rfl, hd, fun _ ht => Option.some.inj ht ▸ Decidable.not_not.mp ‹_›⟩
  | case5 => exact fun hd => ⟨_, _, _, _, _, _, rfl, hd, nofun⟩
  | _ => intro hd; cases hd

end Gsp.Codec
