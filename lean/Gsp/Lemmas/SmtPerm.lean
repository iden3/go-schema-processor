import Gsp.Lemmas.Smt
/-! Insertion-order independence of the sparse Merkle tree: the tree produced by inserting a list of pairs is
    the canonical tree `build` of that list, and `build` is invariant under permutation. -/
namespace Gsp.Smt

abbrev KVs := List (Nat × Nat)

def side (b : Bool) (lvl : Nat) (kvs : KVs) : KVs := kvs.filter fun kv => bit kv.1 lvl == b

/-- the canonical tree of a set of pairs: split on the key bit of the level; `fuel` levels are available -/
def build : Nat → Nat → KVs → Option T
  | _, _, [] => some .empty
  | 0, _, _ :: _ => none
  | _+1, _, [(k, v)] => some (.leaf k v)
  | f+1, lvl, kvs =>
    match build f (lvl+1) (side false lvl kvs), build f (lvl+1) (side true lvl kvs) with
    | some l, some r => some (.mid l r)
    | _, _ => none

theorem build_nil (f lvl : Nat) : build f lvl [] = some .empty := by
  cases f <;> rfl

theorem build_single (f lvl k v : Nat) : build (f+1) lvl [(k, v)] = some (.leaf k v) := rfl

theorem build_many (f lvl : Nat) (a b : Nat × Nat) (rest : KVs) :
    build (f+1) lvl (a :: b :: rest) =
      (match build f (lvl+1) (side false lvl (a :: b :: rest)), build f (lvl+1) (side true lvl (a :: b :: rest)) with
       | some l, some r => some (.mid l r)
       | _, _ => none) := by
  rw [build]
  · exact List.cons_ne_nil _ _
  · intro k v h; cases h

theorem side_nil (b : Bool) (lvl : Nat) : side b lvl [] = [] := rfl

theorem side_cons (b : Bool) (lvl k v : Nat) (kvs : KVs) :
    side b lvl ((k, v) :: kvs) = if bit k lvl = b then (k, v) :: side b lvl kvs else side b lvl kvs := by
  simp only [side, List.filter_cons, beq_iff_eq]

theorem side_perm {b : Bool} {lvl : Nat} {l₁ l₂ : KVs} (h : l₁.Perm l₂) : (side b lvl l₁).Perm (side b lvl l₂) :=
  h.filter _

theorem build_perm : ∀ (f lvl : Nat) (l₁ l₂ : KVs), l₁.Perm l₂ → build f lvl l₁ = build f lvl l₂ := by
  intro f lvl l₁ l₂ h
  induction f generalizing lvl l₁ l₂ with
  | zero => cases l₁ <;> cases l₂ <;> first | rfl | cases h.length_eq
  | succ f ih =>
    -- none, one, or at least two pairs: and then as many in `l₂`
    rcases l₁ with _ | ⟨a, _ | ⟨b, r⟩⟩
    · rw [← h.nil_eq]
    · rw [← List.singleton_perm.mp h]
    · rcases l₂ with _ | ⟨c, _ | ⟨d, r'⟩⟩
      · cases h.length_eq
      · cases h.length_eq
      · rw [build_many, build_many, ih _ _ _ (side_perm h), ih _ _ _ (side_perm h)]

theorem push_build (k v k' v' : Nat) (hne : k' ≠ k) :
    ∀ (f lvl : Nat), (pushLeaf k v k' v' lvl f).toOption = build (f+1) lvl [(k, v), (k', v')] := by
  intro f lvl
  induction f generalizing lvl with
  | zero =>
    rw [build_many]
    cases hk : bit k lvl <;> cases hk' : bit k' lvl <;> simp [side_cons, hk, hk', build, pushLeaf, Except.toOption]
  | succ f ih =>
    rw [build_many, pushLeaf]
    cases hk : bit k lvl <;> cases hk' : bit k' lvl <;>
      simp only [side_cons, side_nil, hk, hk', build_single, ← ih, if_true, if_false, reduceCtorEq,
        Bool.false_eq_true]
    -- both keys go left: the other side is empty, this side is the deeper push; one each: two leaves; both right
    · cases pushLeaf k v k' v' (lvl + 1) f <;> rfl
    · rfl
    · rfl
    · cases pushLeaf k v k' v' (lvl + 1) f <;> rfl

theorem not_mem_side {b : Bool} {lvl k : Nat} {kvs : KVs} (h : k ∉ kvs.map (·.1)) : k ∉ (side b lvl kvs).map (·.1) :=
  fun hm => h ((List.filter_sublist.map _).subset hm)

/-- **inserting into the canonical tree of a set gives the canonical tree of the enlarged set** -/
theorem add_build (k v : Nat) : ∀ (f lvl : Nat) (kvs : KVs) (t : T),
    build f lvl kvs = some t → k ∉ kvs.map (·.1) → (add k v t lvl f).toOption = build f lvl ((k, v) :: kvs) := by
  intro f lvl kvs t hb hk
  -- the cases of `build`: 1 no pair, 2 pairs but no fuel, 3 one pair, 4 / 5 two or more and both sides built / one failed
  fun_induction build f lvl kvs generalizing t with
  | case1 f => cases hb; cases f <;> rfl
  | case2 | case5 => cases hb
  | case3 f lvl k0 v0 =>
    cases hb
    have hne : k0 ≠ k := fun e => hk (by simp [e])
    simpa [add, hne] using push_build k v k0 v0 hne f lvl
  | case4 f lvl kvs h0 _ l r hr hl ihl ihr =>
    cases hb
    obtain ⟨a, rest, rfl⟩ := List.exists_cons_of_ne_nil h0
    -- the new pair joins the side its bit names, and `add` descends into that side's tree
    rw [build_many, add]
    cases hbit : bit k lvl <;>
      simp only [side_cons, hbit, if_true, if_false, reduceCtorEq, hl, hr]
    · rw [← ihl l hl (not_mem_side hk)]; cases add k v l (lvl + 1) f <;> rfl
    · rw [← ihr r hr (not_mem_side hk)]; cases add k v r (lvl + 1) f <;> rfl

theorem addAll_build {kvs acc : KVs} {t t' : T} (hb : build maxLevels 0 acc = some t)
    (hnd : ((kvs ++ acc).map (·.1)).Nodup) (h : addAll kvs t = .ok t') : build maxLevels 0 (kvs ++ acc) = some t' := by
  fun_induction addAll kvs t generalizing acc with
  | case1 => cases h; exact hb
  | case2 => cases h
  | case3 k v rest t t1 h1 ih =>
    have hk : k ∉ acc.map (·.1) := fun hm => (List.nodup_cons.mp hnd).1 (by simp [hm])
    have hb1 := add_build k v maxLevels 0 acc t hb hk
    rw [h1] at hb1
    -- `build` does not care where in the list the pair stands
    have hp : (rest ++ (k, v) :: acc).Perm ((k, v) :: rest ++ acc) := List.perm_middle
    rw [← build_perm _ _ _ _ hp]
    exact ih hb1.symm ((hp.map _).nodup_iff.mpr hnd) h

/-- **Insertion order does not influence the tree**: two successful bulk insertions of permuted lists into an
    empty tree give the *same tree* — hence the same root, whatever the node hash. -/
theorem addAll_perm (l₁ l₂ : KVs) (t₁ t₂ : T) (hp : l₁.Perm l₂)
    (h₁ : addAll l₁ .empty = .ok t₁) (h₂ : addAll l₂ .empty = .ok t₂) : t₁ = t₂ := by
  have b1 := addAll_build (build_nil _ _) (by simpa using (lookup_addAll l₁ .empty t₁ h₁).2.2) h₁
  have b2 := addAll_build (build_nil _ _) (by simpa using (lookup_addAll l₂ .empty t₂ h₂).2.2) h₂
  rw [List.append_nil] at b1 b2
  exact Option.some.inj (b1.symm.trans ((build_perm _ _ _ _ hp).trans b2))

end Gsp.Smt
