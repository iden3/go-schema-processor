/-! Two facts about `Except` that several models' lemmas need; nothing here is about a particular model. -/

namespace Except
variable {ε α β : Type}

theorem exists_error_of_not_ok {x : Except ε α} (h : ∀ a, x ≠ .ok a) : ∃ e, x = .error e := by
  cases x with
  | error e => exact ⟨e, rfl⟩
  | ok a => exact absurd rfl (h a)

/-- "succeeds only with the result of" passes under `Except.map` -/
theorem ok_map {x y : Except ε α} (g : α → β) (h : ∀ q, x = .ok q → y = .ok q) :
    ∀ q, x.map g = .ok q → y.map g = .ok q := by
  intro q hq
  cases x with
  | error e => cases hq
  | ok z => rw [h z rfl]; exact hq

end Except
