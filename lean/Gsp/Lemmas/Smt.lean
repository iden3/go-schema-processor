import Gsp.Model.Smt
/-! Lemmas about the sparse Merkle tree model: proofs verify, lookup after add, totality of proof generation,
    root binding and soundness of verification under the idealised-hash hypothesis. Core tactics only.
    `add`, `pushLeaf` and `genProof` all walk down the path of one key; the proofs about them follow that walk by
    functional induction (`fun_induction`), which hands over one case per branch of the definition, in the order of
    the definition. For `add`: 1 no fuel, 2 empty node, 3 / 4 leaf with the same / another key, 5 / 6 right subtree
    failed / succeeded, 7 / 8 the same on the left. For `pushLeaf`: 1 no fuel, 2 deeper push failed, 3 / 4 it succeeded
    below a right / left turn, 5 / 6 the keys part here. For `genProof`: 1 no fuel, 2 empty, 3 / 4 leaf with the same /
    another key, 5 / 6 right / left. For `addAll`: 1 no pair left, 2 / 3 the first insertion failed / succeeded. -/
namespace Gsp.Smt

section proofs
variable (P : List Nat → Nat)

/-- the statement that carries the induction: at any level, with the siblings collected so far in `sibs` (as many as
    levels above), the proof's root is what `climb` makes of this subtree's hash through `sibs`; at level 0 that is the
    hash of the tree (`genProof_verifies`) -/
theorem genProof_root (k : Nat) :
    ∀ (t : T) (lvl fuel : Nat) (sibs : List Nat) (p : Proof),
      genProof P k t lvl fuel sibs = .ok p → sibs.length = lvl →
      (p.existence = true ↔ (lookup k t lvl).isSome) ∧
      ∀ v, (p.existence = true → lookup k t lvl = some v) →
        rootFromProof P p k v = some (climb P k (T.hash P t) sibs lvl) := by
  intro t lvl fuel sibs p h hl
  fun_induction genProof P k t lvl fuel sibs with
  | case1 => cases h
  | case2 | case3 | case4 => cases h; simp [lookup, rootFromProof, T.hash, *]
  | case5 _ _ _ _ _ hb ih | case6 _ _ _ _ _ hb ih =>
    -- one step of `climb` from the child's hash through the sibling just pushed is the hash of this node
    have := ih h (by rw [List.length_cons, hl])
    simp only [climb, Nat.add_sub_cancel, lookup, hb, if_true, if_false, Bool.false_eq_true] at this ⊢
    exact this

/-- a proof generated from tree `t` verifies against `hash t`: existence proofs with the stored value,
    non-existence proofs with any value; existence ⇔ the key is in the tree. -/
theorem genProof_verifies (k : Nat) (t : T) (fuel : Nat) (p : Proof)
    (h : genProof P k t 0 fuel [] = .ok p) :
    (p.existence = true ↔ (lookup k t 0).isSome) ∧
    ∀ v, (p.existence = true → lookup k t 0 = some v) →
      rootFromProof P p k v = some (T.hash P t) :=
  genProof_root P k t 0 fuel [] p h rfl

/-- `genProof_verifies` in the form its users need, for a key the tree holds (`genProof_nonmember`: for one it does not) -/
theorem genProof_member {k v : Nat} {t : T} {fuel : Nat} {p : Proof} (h : genProof P k t 0 fuel [] = .ok p)
    (hin : lookup k t 0 = some v) : p.existence = true ∧ rootFromProof P p k v = some (T.hash P t) :=
  have ⟨hex, hroot⟩ := genProof_verifies P k t fuel p h
  ⟨hex.mpr (hin ▸ rfl), hroot v fun _ => hin⟩

theorem genProof_nonmember {k : Nat} {t : T} {fuel : Nat} {p : Proof} (h : genProof P k t 0 fuel [] = .ok p)
    (hout : lookup k t 0 = none) : p.existence = false ∧ ∀ v, rootFromProof P p k v = some (T.hash P t) :=
  have ⟨hex, hroot⟩ := genProof_verifies P k t fuel p h
  have hne : p.existence ≠ true := fun he => by simpa [hout] using hex.mp he
  ⟨Bool.eq_false_iff.mpr hne, fun v => hroot v fun he => absurd he hne⟩

theorem hash_annotate (t : T) : TH.hash P (annotate P t) = T.hash P t := by
  induction t with
  | empty => rfl
  | leaf k v => rfl
  | mid l r ihl ihr =>
    show P [TH.hash P (annotate P l), TH.hash P (annotate P r)] = P [T.hash P l, T.hash P r]
    rw [ihl, ihr]

/-- the cached proof generation used by the driver is the model's proof generation -/
theorem genProofH_eq (k : Nat) : ∀ (t : T) (lvl fuel : Nat) (sibs : List Nat),
    genProofH P k (annotate P t) lvl fuel sibs = genProof P k t lvl fuel sibs := by
  intro t lvl fuel sibs
  fun_induction genProof P k t lvl fuel sibs <;> simp [annotate, genProofH, hash_annotate, *]

end proofs

theorem lookup_pushLeaf (k v k' v' : Nat) (hne : k' ≠ k) :
    ∀ (fuel lvl : Nat) (t : T), pushLeaf k v k' v' lvl fuel = .ok t →
      ∀ q, lookup q t lvl = if q = k then some v else if q = k' then some v' else none := by
  intro fuel lvl t h q
  fun_induction pushLeaf k v k' v' lvl fuel generalizing t with
  | case1 | case2 => cases h
  | case3 _ _ hkk _ ht hk ih | case4 _ _ hkk _ ht hk ih =>
    -- both keys turn the same way; `q` follows them, or turns the other way and is neither
    cases h
    have hk' := hkk ▸ hk
    by_cases hq : q = k
    · subst hq; simp [lookup, hk, ih _ ht]
    by_cases hq' : q = k'
    · subst hq'; simp [lookup, hk', ih _ ht]
    · simp [lookup, hq, hq', ih _ ht]
  | case5 lvl _ hkk hk | case6 lvl _ hkk hk =>
    -- the keys part here, one leaf on each side; any other `q` meets a leaf with another key
    cases h
    have hk' : bit k' lvl = !bit k lvl := Bool.eq_not_of_ne (Ne.symm hkk)
    by_cases hq : q = k
    · subst hq; simp [lookup, hk]
    by_cases hq' : q = k'
    · subst hq'; simp [lookup, hk', hk, hne]
    · simp [lookup, hq, hq', Ne.symm hq, Ne.symm hq']

theorem lookup_add (k v : Nat) :
    ∀ (t : T) (lvl fuel : Nat) (t' : T), add k v t lvl fuel = .ok t' →
      ∀ q, lookup q t' lvl = if q = k then some v else lookup q t lvl := by
  intro t lvl fuel t' h q
  fun_induction add k v t lvl fuel generalizing t' with
  | case1 | case3 | case5 | case7 => cases h
  | case2 => cases h; simp [lookup, eq_comm]
  | case4 k' v' lvl fuel hne => simp [lookup_pushLeaf k v k' v' hne fuel lvl t' h q, lookup, eq_comm]
  | case6 _ _ _ _ hb _ hr ih | case8 _ _ _ _ hb _ hr ih =>
    cases h
    -- `q` is `k` and follows it into the changed subtree, or it sees the change only through the induction hypothesis
    by_cases hq : q = k
    · subst hq; simp [lookup, hb, ih _ hr]
    · simp [lookup, hq, ih _ hr]

/-- a key already in the tree cannot be added again (Go: ErrEntryIndexAlreadyExists) -/
theorem add_existing_fails (k v : Nat) :
    ∀ (t : T) (lvl fuel : Nat), (lookup k t lvl).isSome → ∀ t', add k v t lvl fuel ≠ .ok t' := by
  intro t lvl fuel h
  fun_induction add k v t lvl fuel with
  | case1 | case3 | case5 | case7 => exact fun _ => nofun
  | case2 => cases h
  | case4 _ _ _ _ hne => simp [lookup, hne] at h
  | case6 _ _ _ _ hb _ hr ih | case8 _ _ _ _ hb _ hr ih =>
    exact absurd hr (ih (by simpa [lookup, hb] using h) _)

/-- association-list view of a successful bulk insertion: the tree maps exactly the inserted keys, to the
    inserted values, and no key was inserted twice -/
theorem lookup_addAll :
    ∀ (kvs : List (Nat × Nat)) (t t' : T), addAll kvs t = .ok t' →
      (∀ q, lookup q t' 0 = match kvs.reverse.lookup q with
                            | some v => some v
                            | none => lookup q t 0) ∧
      (∀ kv ∈ kvs, (lookup kv.1 t 0) = none) ∧ (kvs.map (·.1)).Nodup := by
  intro kvs t t' h
  fun_induction addAll kvs t with
  | case1 => cases h; simp
  | case2 => cases h
  | case3 k v rest t t1 h1 ih =>
    obtain ⟨i1, i2, i3⟩ := ih h
    have la := lookup_add k v t 0 maxLevels t1 h1
    -- a later key was absent from `t1`, which holds `k`: so it is not `k`, and it was absent from `t`
    have hrest : ∀ kv ∈ rest, kv.1 ≠ k ∧ lookup kv.1 t 0 = none := fun kv hkv => by
      have := i2 kv hkv
      rw [la] at this
      split at this
      · cases this
      · exact ⟨‹_›, this⟩
    refine ⟨fun q => ?_, ?_, ?_⟩
    · rw [i1 q, la q, List.reverse_cons, List.lookup_append]
      cases rest.reverse.lookup q with
      | some x => rfl
      | none => by_cases e : q = k <;> simp [e, beq_eq_false_iff_ne.mpr]
    · simp only [List.forall_mem_cons]
      refine ⟨?_, fun kv hkv => (hrest kv hkv).2⟩
      cases hh : lookup k t 0 with
      | none => rfl
      | some x => exact absurd h1 (add_existing_fails k v t 0 maxLevels (by simp [hh]) t1)
    · simp only [List.map_cons, List.nodup_cons, List.mem_map, not_exists, not_and]
      exact ⟨fun kv hkv => (hrest kv hkv).1, i3⟩

/-- every node sits at a level that proof generation still reaches with `fuel` levels left -/
def Fits : T → Nat → Prop
  | .empty, f => 0 < f
  | .leaf _ _, f => 0 < f
  | .mid l r, f => 0 < f ∧ Fits l (f - 1) ∧ Fits r (f - 1)

theorem fits_empty : Fits .empty maxLevels := Nat.succ_pos _

theorem fits_pushLeaf {k v k' v' lvl fuel : Nat} {t : T} (h : pushLeaf k v k' v' lvl fuel = .ok t) :
    Fits t (fuel + 1) := by
  fun_induction pushLeaf k v k' v' lvl fuel generalizing t with
  | case1 | case2 => cases h
  | case3 _ _ _ _ ht _ ih | case4 _ _ _ _ ht _ ih => cases h; simp [Fits, ih ht]
  | case5 | case6 => cases h; simp [Fits]

theorem fits_add {k v : Nat} {t : T} {lvl fuel : Nat} {t' : T} (hf : Fits t fuel) (h : add k v t lvl fuel = .ok t') :
    Fits t' fuel := by
  fun_induction add k v t lvl fuel generalizing t' with
  | case1 | case3 | case5 | case7 => cases h
  | case2 => cases h; exact hf
  | case4 => exact fits_pushLeaf h
  | case6 _ _ _ _ _ _ hr ih => cases h; exact ⟨hf.1, hf.2.1, ih hf.2.2 hr⟩
  | case8 _ _ _ _ _ _ hl ih => cases h; exact ⟨hf.1, ih hf.2.1 hl, hf.2.2⟩

theorem fits_addAll (kvs : List (Nat × Nat)) (t t' : T) (hf : Fits t maxLevels) (h : addAll kvs t = .ok t') : Fits t' maxLevels := by
  fun_induction addAll kvs t with
  | case1 => cases h; exact hf
  | case2 => cases h
  | case3 _ _ _ _ _ h1 ih => exact ih (fits_add hf h1) h

theorem genProof_total (P : List Nat → Nat) (k : Nat) :
    ∀ (t : T) (lvl fuel : Nat) (sibs : List Nat), Fits t fuel → ∃ p, genProof P k t lvl fuel sibs = .ok p := by
  intro t lvl fuel sibs hf
  fun_induction genProof P k t lvl fuel sibs with
  | case1 t => cases t <;> simp [Fits] at hf
  | case2 | case3 | case4 => exact ⟨_, rfl⟩
  | case5 _ _ _ _ _ _ ih => exact ih hf.2.2
  | case6 _ _ _ _ _ _ ih => exact ih hf.2.1

/-- Idealised hash: injective on the 2- and 3-element inputs used for middle and leaf nodes, never 0 there.
    (Real Poseidon is not injective — pigeonhole; theorems using this are the usual idealised-hash statements.) -/
structure HashCR (P : List Nat → Nat) : Prop where
  inj : ∀ a b, (a.length = 2 ∨ a.length = 3) → (b.length = 2 ∨ b.length = 3) → P a = P b → a = b
  nz : ∀ a, (a.length = 2 ∨ a.length = 3) → P a ≠ 0

/-- no middle node with two empty children (trees built by insertion never contain one) -/
def NoEmptyMid : T → Prop
  | .empty => True
  | .leaf _ _ => True
  | .mid l r => NoEmptyMid l ∧ NoEmptyMid r

/-- only a middle node hashes to `P [a, b]`, and its children then hash to `a` and `b` (which need not be known to be
    hashes of trees: they may come from a proof) -/
theorem hash_eq_mid {P : List Nat → Nat} (hcr : HashCR P) {t : T} {a b : Nat} (h : T.hash P t = P [a, b]) :
    ∃ l r, t = .mid l r ∧ T.hash P l = a ∧ T.hash P r = b := by
  cases t with
  | empty => exact absurd h.symm (hcr.nz _ (.inl rfl))
  | leaf k v => exact absurd (hcr.inj _ _ (.inr rfl) (.inl rfl) h) (by simp)
  | mid l r => exact ⟨l, r, rfl, by simpa using hcr.inj _ _ (.inl rfl) (.inl rfl) h⟩

/-- equal roots ⇒ equal trees: the root binds every leaf (key, value and position) -/
theorem root_binding (P : List Nat → Nat) (hcr : HashCR P) :
    ∀ (t t' : T), T.hash P t = T.hash P t' → t = t' := by
  intro t
  induction t with
  | empty =>
    intro t' h
    cases t' with
    | empty => rfl
    | _ => exact absurd h.symm (hcr.nz _ (by simp))
  | leaf k v =>
    intro t' h
    cases t' with
    | empty => exact absurd h (hcr.nz _ (.inr rfl))
    | leaf k' v' => simpa using hcr.inj _ _ (.inr rfl) (.inr rfl) h
    | mid l r => exact absurd (hcr.inj _ _ (.inr rfl) (.inl rfl) h) (by simp)
  | mid l r ihl ihr =>
    intro t' h
    obtain ⟨l', r', rfl, hl, hr⟩ := hash_eq_mid hcr h.symm
    rw [ihl l' hl.symm, ihr r' hr.symm]

/-- what a proof *claims* about key `k`: present with value `v`, or absent -/
def claims (p : Proof) (k v : Nat) (t : T) (lvl : Nat) : Prop :=
  if p.existence then lookup k t lvl = some v else lookup k t lvl = none

/-- the induction behind `verify_sound`, from the deepest sibling upwards, as `climb` goes: if every tree that hashes
    to `m` answers `res` for `k` at the level below the siblings, then every tree that hashes to what `climb` makes of
    `m` answers `res` at level 0 -/
theorem climb_sound {P : List Nat → Nat} (hcr : HashCR P) {k : Nat} {res : Option Nat} {sibsRev : List Nat} {m : Nat}
    (hm : ∀ t, T.hash P t = m → lookup k t sibsRev.length = res) {t : T}
    (h : T.hash P t = climb P k m sibsRev sibsRev.length) : lookup k t 0 = res := by
  induction sibsRev generalizing m with
  | nil => exact hm t h
  | cons s rest ih =>
    refine ih (fun t ht => ?_) h
    rw [List.length_cons, Nat.add_sub_cancel] at ht
    split at ht <;> obtain ⟨l, r, rfl, hl, hr⟩ := hash_eq_mid hcr ht <;> simp only [lookup, *]
    · exact hm _ hr
    · exact hm _ hl

/-- **Soundness of proof verification**: under the idealised-hash hypothesis, a proof that recomputes the root
    of tree `t` tells the truth — an accepted existence proof means the key is in `t` with that value, an
    accepted non-existence proof means the key is absent from `t`. -/
theorem verify_sound (P : List Nat → Nat) (hcr : HashCR P) (t : T) (p : Proof) (k v : Nat)
    (h : rootFromProof P p k v = some (T.hash P t)) :
    if p.existence then lookup k t 0 = some v else lookup k t 0 = none := by
  obtain ⟨ex, sibs, aux⟩ := p
  -- the climb starts from the hash of a leaf or of the empty tree, and that node alone decides the answer `res`
  have key : ∀ (start : T) res, (∀ l, lookup k start l = res) →
      climb P k (T.hash P start) sibs.reverse sibs.length = T.hash P t → lookup k t 0 = res := by
    intro start res hs hc
    rw [← List.length_reverse] at hc
    exact climb_sound hcr (fun t' ht' => root_binding P hcr _ _ ht' ▸ hs _) hc.symm
  cases ex with
  | true => exact key (.leaf k v) _ (by simp [lookup]) (by simpa [rootFromProof, T.hash] using h)
  | false =>
    rcases aux with _ | ⟨k', v'⟩
    · exact key .empty _ (fun _ => rfl) (by simpa [rootFromProof, T.hash] using h)
    · by_cases hk : k' = k
      · simp [rootFromProof, hk] at h
      · exact key (.leaf k' v') _ (by simp [lookup, hk]) (by simpa [rootFromProof, T.hash, hk] using h)

end Gsp.Smt
