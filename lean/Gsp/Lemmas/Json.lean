import Gsp.Model.Json
/-! Looking a member up in an object that is written out member by member; and what each decoder of the credential's
    struct view accepts: a value it reads is the value the matching encoder of `members` writes. -/
namespace Gsp.Json

/-- the first member answers for its own name, the others are asked for every other name. With literal names `simp` decides
    `k' = k` by comparing the literals, where unfolding `List.lookup` makes it evaluate `==` on strings. -/
theorem J.get_cons (k k' : String) (x : J) (kvs : List (String × J)) :
    (J.obj ((k, x) :: kvs)).get k' = if k' = k then some x else (J.obj kvs).get k' := by
  simp only [J.get, List.lookup_cons]
  split <;> simp_all

theorem J.get_nil (k : String) : (J.obj []).get k = none := rfl

theorem strs?_eq_some {x : J} {ss : List String} (h : x.strs? = some ss) : x = .arr (ss.map .str) := by
  cases x with
  | arr xs =>
    induction xs generalizing ss with
    | nil => cases h; rfl
    | cons y ys ih =>
      rw [J.strs?, List.mapM_cons] at h
      obtain ⟨s, hs, h⟩ := Option.bind_eq_some_iff.1 h
      obtain ⟨tl, htl, h⟩ := Option.bind_eq_some_iff.1 h
      cases h
      cases y <;> cases hs
      rw [J.arr.inj (ih htl)]; rfl
  | _ => cases h

theorem str?_eq_some {x : J} {s : String} (h : x.str? = some s) : x = .str s := by
  cases x <;> cases h; rfl

theorem objOf_eq_some {o : Option J} {kvs : List (String × J)} (h : objOf o = some kvs) : o = some (.obj kvs) := by
  unfold objOf at h
  split at h
  · cases h; rfl
  · cases h

/-- an id that is read comes back, unless it is the empty string, which `omitempty` drops -/
theorem optStr_eq_some {o : Option J} {r : Option String} (h : optStr o = some r) (hne : o ≠ some (.str "")) :
    (r.bind fun s => if s = "" then none else some (.str s)) = o := by
  unfold optStr at h
  split at h
  · cases h; rfl
  · cases h; exact if_neg fun e => hne (by rw [e])
  · cases h

/-- an {id, type} object that is read comes back, provided it was written as exactly that -/
theorem optIdType_eq_some {o : Option J} {r : Option IdType} (h : optIdType o = some r)
    (hshape : ∀ x, o = some x → ∀ s, idType? x = some s → x = s.toJ) : r.map IdType.toJ = o := by
  cases o with
  | none => cases h; rfl
  | some x =>
    obtain ⟨s, hs, rfl⟩ := Option.map_eq_some_iff.1 h
    exact congrArg some (hshape x rfl s hs).symm

/-- a date that is written is read as the same instant -/
theorem optDate_render {pt : String → Option Int} {rt : Int → String} (hrt : ∀ t, pt (rt t) = some t) {r : Option Int} :
    optDate pt (r.map fun t => .str (rt t)) = some r := by
  cases r with
  | none => rfl
  | some t => exact congrArg (Option.map some) (hrt t)

theorem knownMembers_nodup : knownMembers.Nodup := by simp [knownMembers]

/-- a required member `o` that `dec` reads as `a` is the value `v` that the encoder writes for `a`, if `dec` accepts nothing
    else (`hdec` may use that `x` is the member: the shape hypothesis on the credential schema is stated of the member) -/
theorem some_eq_of_bind_eq_some {α} {o : Option J} {dec : J → Option α} {a : α} {v : J} (h : o.bind dec = some a)
    (hdec : ∀ x, o = some x → dec x = some a → x = v) : some v = o := by
  obtain ⟨x, hx, hd⟩ := Option.bind_eq_some_iff.1 h
  rw [hx, hdec x hx hd]

end Gsp.Json
