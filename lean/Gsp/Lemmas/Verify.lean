import Gsp.Model.Verify
/-! What each verifier of M6 decides, said once per verifier in two lemmas: `f_verdict` reads off a verdict (accepted or
    revoked, not an error) that every check passed, following the definition's own case split; `f_of_checks` is the way back. -/
namespace Gsp.Verify
open Gsp.Smt

variable {P : List Nat → Nat} {H3 : Nat → Nat → Nat → Nat} {o : Outcome}

theorem err_ne_verdict (ho : o = .ok ∨ o = .revoked) {e : String} : Outcome.err e ≠ o := by rcases ho with rfl | rfl <;> nofun

/-- what a verdict of ValidateCredentialStatus went through; the proof shows existence exactly when the verdict is "revoked" -/
theorem status_verdict (ho : o = .ok ∨ o = .revoked) {ans : Except String StatusAnswer} {nonce : Nat} :
    status P H3 ans nonce = o →
    ∃ a revRoot, ans = .ok a ∧ validateTreeState H3 a.issuer = .ok true ∧ rootOr0 a.issuer.revRoot = .ok revRoot ∧
      verify P revRoot a.mtp nonce 0 = true ∧ a.mtp.existence = decide (o = .revoked) := by
  -- case6: every check passed and the proof shows existence (revoked), case7: non-existence (ok); cases 1-5 are the errors
  fun_cases status P H3 ans nonce with
  | case6 a hts r hr hv he => exact fun h => ⟨a, r, rfl, hts, hr, by simpa using hv, by subst h; exact he⟩
  | case7 a hts r hr hv he => exact fun h => ⟨a, r, rfl, hts, hr, by simpa using hv, by subst h; exact Bool.eq_false_iff.mpr he⟩
  | _ => exact fun h => (err_ne_verdict ho h).elim

theorem status_of_checks {a : StatusAnswer} {revRoot nonce : Nat} (hts : validateTreeState H3 a.issuer = .ok true)
    (hr : rootOr0 a.issuer.revRoot = .ok revRoot) (hv : verify P revRoot a.mtp nonce 0 = true) :
    status P H3 (.ok a) nonce = if a.mtp.existence then .revoked else .ok := by
  simp only [status, hts, hr, hv]; rfl

/-- what a verdict of verifyIden3SparseMerkleTreeProof went through; it is never "revoked" -/
theorem smtProof_verdict (ho : o = .ok ∨ o = .revoked) {b : SmtBundle} : smtProof P H3 b = o →
    o = .ok ∧ b.issuer.didOk = true ∧ stateConsistent H3 b.issuer = .ok () ∧
      publishedOrGenesis b.resolved b.genesis = .ok () ∧ includedInClaimsTree P b.issuer b.mtp b.hi b.hv = .ok () := by
  -- case5: every check passed; cases 1-4 are the errors
  fun_cases smtProof P H3 b with
  | case5 hd hs hp hi => exact fun h => ⟨h.symm, by simpa using hd, hs, hp, hi⟩
  | _ => exact fun h => (err_ne_verdict ho h).elim

theorem smtProof_of_checks {b : SmtBundle} (hd : b.issuer.didOk = true) (hs : stateConsistent H3 b.issuer = .ok ())
    (hp : publishedOrGenesis b.resolved b.genesis = .ok ()) (hi : includedInClaimsTree P b.issuer b.mtp b.hi b.hv = .ok ()) :
    smtProof P H3 b = .ok := by
  simp only [smtProof, hd, hs, hp, hi]; rfl

/-- the auth claim of a signature proof, as the bundle the SMT verifier judges -/
def BjjBundle.authSmt (b : BjjBundle) : SmtBundle := ⟨b.issuer, b.authMtp, b.authHi, b.authHv, b.resolved, b.genesis⟩

/-- verifyBJJSignatureProof is the two signature oracles, then the SMT verifier's checks on the auth claim (in another order),
    then the nonce of the status entry against the auth claim's, then the auth claim's revocation status -/
theorem bjj_verdict (ho : o = .ok ∨ o = .revoked) {b : BjjBundle} : bjj P H3 b = o →
    b.authClaimOk = true ∧ b.sigOk = true ∧ smtProof P H3 b.authSmt = .ok ∧
      b.statusNonce = .ok b.authNonce ∧ status P H3 b.statusAnswer b.authNonce = o := by
  -- case9: every check passed and the status entry's nonce `n` is the auth claim's; cases 1-8 are the errors
  fun_cases bjj P H3 b with
  | case9 ha hg hd hs hi hp n hn hne =>
    cases Decidable.of_not_not hne
    exact fun h => ⟨by simpa using ha, by simpa using hg, smtProof_of_checks (by simpa [BjjBundle.authSmt] using hd) hs hp hi, hn, h⟩
  | _ => exact fun h => (err_ne_verdict ho h).elim

/-- with the signature, the auth claim and the nonce in order, the verdict is the status validation's, error or not -/
theorem bjj_of_checks {b : BjjBundle} (ha : b.authClaimOk = true) (hg : b.sigOk = true) (hs : smtProof P H3 b.authSmt = .ok)
    (hn : b.statusNonce = .ok b.authNonce) : bjj P H3 b = status P H3 b.statusAnswer b.authNonce := by
  obtain ⟨_, hd, hs, hp, hi⟩ := smtProof_verdict (.inl rfl) hs
  simp only [BjjBundle.authSmt] at hd hs hp hi
  simp only [bjj, ha, hg, hd, hs, hp, hi, hn]; simp

theorem smtProof_of_bjj_ok {b : BjjBundle} (h : bjj P H3 b = .ok) : smtProof P H3 b.authSmt = .ok :=
  (bjj_verdict (.inl rfl) h).2.2.1

end Gsp.Verify
