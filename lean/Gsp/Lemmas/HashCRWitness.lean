import Gsp.Lemmas.Smt
/-! The idealised-hash hypothesis `HashCR` is satisfiable: an explicit injective, never-zero function on lists of
    naturals. The theorems that assume `HashCR P` (root_binding, verify_sound and what C03/C07/C08/C09 build on
    them) are therefore not vacuous. (Real Poseidon maps into a finite field and cannot be injective; for it the
    hypothesis is the usual collision-resistance idealisation, listed in the trusted base.) -/
namespace Gsp.Smt

/-- the classical bijection ℕ × ℕ → ℕ⁺ -/
def pairP (a b : Nat) : Nat := 2 ^ a * (2 * b + 1)

theorem pairP_zero (b : Nat) : pairP 0 b = 2 * b + 1 := by simp [pairP]

theorem pairP_succ (a b : Nat) : pairP (a + 1) b = 2 * pairP a b := by
  simp only [pairP, Nat.pow_succ, Nat.mul_comm _ 2, Nat.mul_assoc]

/-- `pairP a b` is `2 * b + 1` doubled `a` times: parity tells `a = 0` from `a > 0`, halving does the rest -/
theorem pairP_inj {a c b d : Nat} (h : pairP a b = pairP c d) : a = c ∧ b = d := by
  induction a generalizing c with
  | zero =>
    cases c <;> simp only [pairP_zero, pairP_succ] at h
    · exact ⟨rfl, by omega⟩
    · omega
  | succ a ih =>
    cases c <;> simp only [pairP_zero, pairP_succ] at h
    · omega
    · have := ih (Nat.eq_of_mul_eq_mul_left (by decide) h)
      exact ⟨congrArg _ this.1, this.2⟩

theorem pairP_pos (a b : Nat) : pairP a b ≠ 0 :=
  Nat.mul_ne_zero (Nat.ne_of_gt (Nat.two_pow_pos a)) (Nat.succ_ne_zero _)

def encL : List Nat → Nat
  | [] => 0
  | x :: xs => pairP x (encL xs)

theorem encL_inj {a b : List Nat} (hl : a.length = b.length) (h : encL a = encL b) : a = b := by
  induction a generalizing b with
  | nil => cases b with | nil => rfl | cons _ _ => simp at hl
  | cons x xs ih =>
    cases b with
    | nil => simp at hl
    | cons y ys =>
      have := pairP_inj h
      simp only [List.length_cons, Nat.add_right_cancel_iff] at hl
      rw [this.1, ih hl this.2]

def idealHash (l : List Nat) : Nat := pairP l.length (encL l)

theorem idealHash_inj {a b : List Nat} (h : idealHash a = idealHash b) : a = b :=
  have := pairP_inj h
  encL_inj this.1 this.2

theorem hashCR_satisfiable : HashCR idealHash :=
  ⟨fun _ _ _ _ => idealHash_inj, fun _ _ => pairP_pos _ _⟩

end Gsp.Smt
