import Gsp.Model.Xsd
/-! The integer arm and the double arm of `Xsd.convert` (convertStringToXSDValue) as equations (the boolean arm and the default
    arm are property theorems: `Props.C04.convert_bool_by_table`, `Props.C04.other_enc` / `convert_other_is_string`); of the dateTime parsers, the range test
    as an iff and the bare date as a dateTime. -/
namespace Gsp.Xsd

theorem isIntType_ne_boolean {dt : String} (h : isIntType dt = true) : dt ≠ tBoolean := by
  rintro rfl
  simp [isIntType, tBoolean, tPositive, tNonNegative, tInteger, tNegative, tNonPositive] at h

theorem convert_int (canon : String → Option String) {dt : String} (lex : String) (p : Nat) (hdt : isIntType dt = true) :
    convert canon dt lex p =
      match intFromStr lex with
      | none => .error "int-parse"
      | some i =>
        match minMax dt p with
        | none => .error "int-type"
        | some (lo, hi) => if i > hi then .error "int-max" else if i < lo then .error "int-min" else .ok (.int i) := by
  rw [convert, if_neg (isIntType_ne_boolean hdt), if_pos hdt]
  rfl

theorem convert_double (canon : String → Option String) (lex : String) (p : Nat) :
    convert canon tDouble lex p = match canon lex with | none => .error "double" | some c => .ok (.str c) := by
  -- the tests of the switch before the double arm fail on the name itself
  simp [convert, isIntType, tDouble, tBoolean, tDateTime, tPositive, tNonNegative, tInteger, tNegative, tNonPositive]
  rfl

theorem inRange_eq_some {x lo hi n : Nat} : inRange x lo hi = some n ↔ n = x ∧ lo ≤ n ∧ n ≤ hi := by
  simp only [inRange, Option.ite_none_right_eq_some, Bool.and_eq_true, decide_eq_true_eq, Option.some.injEq]
  exact ⟨fun ⟨h, e⟩ => e ▸ ⟨rfl, h⟩, fun ⟨e, h⟩ => e ▸ ⟨h, rfl⟩⟩

/-- a bare date is parsed as the dateTime at midnight UTC of that day -/
theorem parseDate_midnight {cs : List Char} {t : Int} : parseDate cs = some t →
    parseRFC3339 (cs ++ "T00:00:00Z".toList) = some t := by
  -- case1: ten characters whose date fields parse; case2: they do not; case3: any other shape
  fun_cases parseDate cs with
  | case1 _ _ _ _ _ _ _ _ ymd hd =>
    have e1 : todFields '0' '0' '0' '0' '0' '0' = some 0 := rfl
    have e2 : fracZone ['Z'] = some (0, 0) := rfl
    simp [parseRFC3339, hd, e1, e2]
  | _ => intro h; cases h

end Gsp.Xsd
