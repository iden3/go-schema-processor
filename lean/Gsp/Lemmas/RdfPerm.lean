import Gsp.Lemmas.RdfChain
/-! Go iterates the `ds.Graphs` map in an unspecified order. In the model the dataset is a list and the order of the
    list stands for that iteration order. This file proves that the order does not matter: two lists that are
    permutations of each other (graph names distinct, as map keys are) give the same result, error class included. -/
namespace Gsp.Rdf

theorem uniqueParent_perm {l l' : List Idx} (hp : l.Perm l') : uniqueParent l = uniqueParent l' := by
  match l, l', hp.length_eq, hp with
  | [], [], _, _ => rfl
  | [a], [b], _, hp => rw [List.singleton_perm_singleton.mp hp]
  | _ :: _ :: _, _ :: _ :: _, _, _ => rfl

def nameLE (a b : String × List Quad) : Prop := a.1 ≤ b.1

theorem insertSorted_sorted (x : String × List Quad) (l : Dataset) (hs : l.Pairwise nameLE) :
    (insertSorted x l).Pairwise nameLE := by
  induction l with
  | nil => exact List.pairwise_singleton ..
  | cons y ys ih =>
    obtain ⟨hy, hys⟩ := List.pairwise_cons.mp hs
    unfold insertSorted
    split
    · rename_i hlt
      have hxy : x.1 ≤ y.1 := (String.le_total x.1 y.1).resolve_right fun h => h hlt
      refine List.pairwise_cons.mpr ⟨fun z hz => ?_, hs⟩
      rcases List.mem_cons.mp hz with rfl | hz
      · exact hxy
      · exact String.le_trans hxy (hy z hz)
    · rename_i hnlt
      refine List.pairwise_cons.mpr ⟨fun z hz => ?_, ih hys⟩
      rcases List.mem_cons.mp ((insertSorted_perm x ys).mem_iff.mp hz) with rfl | hz
      · exact hnlt  -- `y.1 ≤ x.1` is `¬ x.1 < y.1` by definition
      · exact hy z hz

theorem sortedGraphs_sorted (ds : Dataset) : (sortedGraphs ds).Pairwise nameLE := by
  induction ds with
  | nil => exact .nil
  | cons x rest ih => exact insertSorted_sorted x _ ih

variable {ds ds' : Dataset} (hp : ds.Perm ds')
include hp

theorem totalQuads_perm : totalQuads ds = totalQuads ds' := by
  induction hp with
  | nil => rfl
  | cons x _ ih => simp [totalQuads, ih]
  | swap x y l => simp [totalQuads]; omega
  | trans _ _ ih1 ih2 => rw [ih1, ih2]

theorem assertConsistency_perm : assertConsistency ds = assertConsistency ds' :=
  hp.all_eq

theorem scanAll_perm (self : Idx) (key : Ref) : (scanAll self key ds).Perm (scanAll self key ds') := by
  induction hp with
  | nil => exact List.Perm.refl _
  | cons x _ ih => exact List.Perm.append_left _ ih
  | swap x y l =>
    simp only [scanAll]
    rw [← List.append_assoc, ← List.append_assoc]
    exact List.Perm.append_right _ List.perm_append_comm
  | trans _ _ ih1 ih2 => exact ih1.trans ih2

variable (hnd : (names ds).Nodup)
include hnd

theorem getQuad_perm (ix : Idx) : getQuad ds ix = getQuad ds' ix := by
  unfold getQuad
  rw [Assoc.lookup_perm hp hnd]

theorem findParent_perm (self : Idx) (q : Quad) :
    findParent ds self q = findParent ds' self q := by
  simp only [findParent, findParentInsideGraph, findGraphParent, Assoc.lookup_perm hp hnd,
    fun r => uniqueParent_perm (scanAll_perm hp self r)]

theorem relGraph_perm (g : String) (qs : List Quad) :
    ∀ (i : Nat) (rel : Rel), relGraph ds g qs i rel = relGraph ds' g qs i rel := by
  induction qs with
  | nil => intro _ _; rfl
  | cons q rest ih => intro i rel; simp only [relGraph, findParent_perm hp hnd, getQuad_perm hp hnd, ih]

theorem relGraphs_perm (gs : Dataset) :
    ∀ (rel : Rel), relGraphs ds gs rel = relGraphs ds' gs rel := by
  induction gs with
  | nil => intro _; rfl
  | cons gq rest ih => intro rel; simp only [relGraphs, relGraph_perm hp hnd, ih]

theorem sortedGraphs_eq_of_perm : sortedGraphs ds = sortedGraphs ds' := by
  have hp' : (sortedGraphs ds).Perm (sortedGraphs ds') :=
    ((sortedGraphs_perm ds).trans hp).trans (sortedGraphs_perm ds').symm
  have hnds : (names (sortedGraphs ds)).Nodup := ((sortedGraphs_perm ds).map _).nodup_iff.mpr hnd
  refine List.Perm.eq_of_pairwise (le := nameLE) ?_ (sortedGraphs_sorted ds) (sortedGraphs_sorted ds') hp'
  rintro ⟨ga, qa⟩ ⟨gb, qb⟩ ha hb hab hba
  cases (String.le_antisymm hab hba : ga = gb)
  cases (Assoc.lookup_of_mem hnds ha).symm.trans (Assoc.lookup_of_mem hnds (hp'.mem_iff.mpr hb))
  rfl

theorem newRelationship_perm : newRelationship ds = newRelationship ds' := by
  unfold newRelationship
  rw [sortedGraphs_eq_of_perm hp hnd, relGraphs_perm hp hnd]

theorem walk_perm (rel : Rel) (fuel : Nat) :
    ∀ (cur : Idx) (acc : List PathPart), walk ds rel fuel cur acc = walk ds' rel fuel cur acc := by
  induction fuel with
  | zero => intro _ _; rfl
  | succ f ih => intro cur acc; simp only [walk, getQuad_perm hp hnd, ih]

theorem path_perm (rel : Rel) (ix : Idx) (idx : Option Nat) :
    path ds rel ix idx = path ds' rel ix idx := by
  simp only [path, getQuad_perm hp hnd, totalQuads_perm hp, walk_perm hp hnd]

theorem goEntries_perm {canon : String → Option String} {p : Nat}
    (rel : Rel) (g : String) (all qs : List Quad) :
    ∀ (i : Nat) (seen : Seen), goEntries canon p ds rel g all qs i seen = goEntries canon p ds' rel g all qs i seen := by
  induction qs with
  | nil => intro _ _; rfl
  | cons q rest ih => intro i seen; simp only [goEntries, path_perm hp hnd, ih]

theorem entriesGraphs_perm {canon : String → Option String} {p : Nat} (rel : Rel)
    (gs : Dataset) : entriesGraphs canon p ds rel gs = entriesGraphs canon p ds' rel gs := by
  induction gs with
  | nil => rfl
  | cons gq rest ih => simp only [entriesGraphs, goEntries_perm hp hnd, ih]

/-- **the iteration order of Go's graph map does not influence the result** — entries, their order, and the error
    class are the same for every order in which the map hands out its graphs -/
theorem entries_perm {canon : String → Option String} {p : Nat} :
    entries canon p ds = entries canon p ds' := by
  simp only [entries, assertConsistency_perm hp, Assoc.lookup_perm hp hnd, newRelationship_perm hp hnd,
    sortedGraphs_eq_of_perm hp hnd, entriesGraphs_perm hp hnd]

end Gsp.Rdf
