import Gsp.Props.C01
import Gsp.Props.C02
import Gsp.Props.C03
import Gsp.Props.C04
import Gsp.Props.C05
import Gsp.Props.C06
import Gsp.Props.C07
import Gsp.Props.C08
import Gsp.Props.C09
import Gsp.Props.C10
import Gsp.Props.C11
import Gsp.Props.C12
import Gsp.Props.C13
import Gsp.Props.C14
import Gsp.Props.C15
import Gsp.Props.C16
import Gsp.Props.C17
import Gsp.Props.C18
import Gsp.Props.C19
import Gsp.Props.C20
